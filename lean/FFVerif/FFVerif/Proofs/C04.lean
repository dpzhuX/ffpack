/-
C04 — counting methods agree on closed histories; the repeating count ignores the cut.

The six clauses are stated below as `def … : Prop`; each is proved, for every history, in Proofs/C04Full.lean, and
decided on the implementation by the executable predicates of Props/C04.lean.  Proved here is what the
definitions and the census give without more: a history that starts at its maximum, and equal totals for an
odd number of reversals (every history closed at a strict extreme).
-/
import FFVerif.Lemmas.Repeat
import FFVerif.Lemmas.Filter
import FFVerif.Props.C04
namespace FF
open C04

def C04.AgreeStatement : Prop :=
  ∀ h : List Int, closedAtExtreme h = true → isConstant h = false →
    table (rainflow h) = table (rangePair h) ∧ table (rainflow h) = table (rainflowRepeat h)

def C04.FourPointStatement : Prop :=
  ∀ h : List Int, closedAtExtreme h = true → isConstant h = false →
    tblAdd (span h) 2 (table (fourPoint h)) = table (rainflow h)

/-- cutting the closed period `b ++ [b.head]` at position `k` -/
def C04.CutStatement : Prop :=
  ∀ (b : List Int) (k : Nat) (x y : Int), b.head? = some x → (b.drop k ++ b.take k).head? = some y →
    table (rainflowRepeat (b.drop k ++ b.take k ++ [y])) = table (rainflowRepeat (b ++ [x]))

def C04.ResidueStatement : Prop :=
  ∀ h : List Int, table (fourPoint h ++ halves (fourPointFull h).1) = table (rainflow h)

def C04.NoTieStatement : Prop :=
  ∀ h : List Int, noTies h = true → table (fourPoint h) = table (wholes (rainflow h))

def C04.ContainsStatement : Prop :=
  ∀ (h : List Int) (k : Nat), unitsAt (wholes (rainflow h)) k ≤ unitsAt (rangePair h) k

/-- a history that starts at its maximum: the repeating-history count is the forward pass of
range-pair counting on the same reversals -/
theorem C04_repeat_is_forward (h : List Int) (h0 : argmax (pv true h) = 0) :
    rainflowRepeat h = (rpForward [] (pv true h) []).2 :=
  repeat_unrotated h h0

/-- … hence range-pair counting = repeating-history count followed by the backward-pass cycles -/
theorem C04_rangePair_extends_repeat (h : List Int) (h0 : argmax (pv true h) = 0) :
    ∃ extra, rangePair h = rainflowRepeat h ++ extra := by
  rw [C04_repeat_is_forward h h0]
  exact rpBack_extends _ _

/-- with an odd number of reversals rainflow and range-pair both count exactly (R-1)/2 cycles -/
theorem C04_totals_agree (h : List Int) (hc : isConstant h = false) (hodd : (pv true h).length % 2 = 1) :
    totalUnits (rangePair h) = totalUnits (rainflow h) := by
  have t1 := (astm_census (pv true h) (pv_ne_nil hc)).1
  obtain ⟨cen, hlen⟩ := rangePair_census h
  -- range-pair counts whole cycles, an even total, and leaves one or two points: one
  have ev := totalUnits_wholes (cen.whole rfl)
  have u := cen.units
  have := List.length_pos_iff.mpr (cen.ne (pv_ne_nil hc))
  rw [List.length_reverse] at u this
  rw [rainflow_eq_astm]
  omega

-- non-vacuity: the ASTM example starts elsewhere; a history starting at its maximum
example : argmax (pv true [5, -1, 3, -4, 4, -2, 1, -3, 5]) = 0 := by decide

end FF
