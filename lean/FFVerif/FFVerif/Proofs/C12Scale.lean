/-
C12 — the curvature extraction does not depend on the unit of the limit state.

Multiplying `g` by a positive constant `c` multiplies its gradient `a` and its Hessian `Hx` by `c`.  On the executable model of the
pipeline (`Model/SormPipe.lean`) the rows of the rotation (built from the unit vector `-∇G/‖∇G‖`) and the curvature block
(`R H_U Rᵀ / ‖∇G‖`) are then unchanged, only the reported gradient norm is multiplied by `c` (`C12s_block_scale`).  The main curvatures —
and with them the three SORM estimates — are those of the SURFACE `g = 0`, whatever the unit of `g` (1, 1e-9, …): an absolute
tolerance applied to the unnormalised Hessian would break exactly this.
-/
import FFVerif.Proofs.C12Pipe
namespace FF.SormPipe
open FF.Linalg FF.Nataf Finset

theorem hessU_smul (T : Model ℝ) (x a : Vec ℝ) (Hx : Mat ℝ) (c : ℝ) :
    hessU T x (fun i => c * a i) (fun k l => c * Hx k l) = fun i j => c * hessU T x a Hx i j := by
  funext i j
  rw [hessU_real, hessU_real, mul_add, mul_sum, mul_sum]
  congr 1
  · refine sum_congr rfl (fun k _ => ?_)
    rw [mul_sum]
    exact sum_congr rfl (fun l _ => by ring)
  · exact sum_congr rfl (fun k _ => by ring)

theorem alignOf_smul (T : Model ℝ) (x a : Vec ℝ) (c : ℝ) (hc : 0 < c) : alignOf T x (fun i => c * a i) = alignOf T x a := by
  funext i
  rw [alignOf, alignOf, Form.gradU_smul, Linalg.norm_smul, abs_of_pos hc, mul_left_comm, mul_div_mul_left _ _ hc.ne']

/-- **unit of the limit state**: rows and curvature block unchanged, gradient norm multiplied by `c` -/
theorem C12s_block_scale (T : Model ℝ) (x a : Vec ℝ) (Hx : Mat ℝ) (c : ℝ) (hc : 0 < c) :
    (curvatureBlock T x (fun i => c * a i) (fun k l => c * Hx k l)).rows = (curvatureBlock T x a Hx).rows ∧
    (curvatureBlock T x (fun i => c * a i) (fun k l => c * Hx k l)).block = (curvatureBlock T x a Hx).block ∧
    (curvatureBlock T x (fun i => c * a i) (fun k l => c * Hx k l)).gradNorm = c * (curvatureBlock T x a Hx).gradNorm := by
  -- the rows depend on the gradient only through the alignment vector; in the block `c` cancels between Hessian and norm
  simp only [curvatureBlock_real, alignOf_smul T x a c hc, hessU_smul, Form.gradU_smul, Linalg.norm_smul, abs_of_pos hc,
    mul_div_mul_left _ _ hc.ne', true_and]

end FF.SormPipe
