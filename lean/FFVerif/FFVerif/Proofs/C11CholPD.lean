/-
C11 — the Cholesky algorithm of `Model/Chol.lean` never meets a non-positive pivot on a positive-definite matrix:
`chol_pivots_of_posdef`.  Together with `chol_spec` / `chol_triInv` (Proofs/C11Chol.lean) this puts the property's own precondition in
the place of the hypothesis "all pivots positive": an admissible (symmetric positive-definite) correlation matrix.

Proof: after `k` steps `A = Σ_{c<k} l_c l_cᵀ + R` with `R` vanishing on rows and columns `< k` (`Inv`).  The matrix
`M = [ l_0 … l_{k-1} | e_k … e_{n-1} ]` is lower triangular with non-zero diagonal; for `x` = row `k` of its inverse (`triInv_left`),
`xᵀ M = e_kᵀ`, that is `xᵀ l_c = 0` for `c < k`, `x_k = 1`, `x_j = 0` for `j > k`.  Then `xᵀ A x = R k k`, and `xᵀ A x > 0`.
-/
import FFVerif.Proofs.C11Chol
import FFVerif.Proofs.C11Model
namespace FF.Chol
open FF.Linalg Finset

def PosDef (n : Nat) (A : Mat ℝ) : Prop :=
  ∀ x : Nat → ℝ, (∃ i, i < n ∧ x i ≠ 0) → 0 < ∑ i ∈ range n, ∑ j ∈ range n, x i * A i j * x j

theorem pivot_pos (n : Nat) (A : Mat ℝ) (k : Nat) (hk : k < n) (R L : Mat ℝ) (I : Inv n A k R L) (hpd : PosDef n A) :
    0 < R k k := by
  -- `x` = row `k` of `M⁻¹`, `M = [ l_0 … l_{k-1} | e_k … e_{n-1} ]`: the columns of `xᵀ M = e_kᵀ` are `hL` and `hx`
  let M : Mat ℝ := fun i c => if c < k then L i c else if c = i then 1 else 0
  have hM : ∀ c, c < n → ∑ i ∈ range n, triInv n M k i * M i c = if k = c then 1 else 0 := fun c =>
    triInv_left n M (fun i c h => by simp only [M, I.lower i c h, if_neg h.ne', ite_self])
      (fun c _ => by
        by_cases h : c < k
        · simp only [M, if_pos h]; exact (I.diag c h).ne'
        · simp only [M, if_neg h, if_true]; exact one_ne_zero) k c hk
  generalize triInv n M k = x at hM
  have hL : ∀ c, c < k → ∑ i ∈ range n, x i * L i c = 0 := fun c hc => by
    rw [← (hM c (hc.trans hk)).trans (if_neg (Nat.ne_of_gt hc))]
    simp only [M, if_pos hc]
  have hx : ∀ c, c < n → k ≤ c → x c = if k = c then 1 else 0 := fun c hc hkc => by
    rw [← hM c hc]
    simp only [M, if_neg (Nat.not_lt.mpr hkc), sum_mul_boole, if_pos (mem_range.mpr hc)]
  -- so `xᵀ R` is row `k` of `R` (the rows above it vanish), and so is `xᵀ A`
  have hR : ∀ j, j < n → ∑ i ∈ range n, x i * R i j = R k j := fun j hj => by
    rw [sum_eq_single_of_mem k (mem_range.mpr hk) fun i hi hik => ?_, hx k hk le_rfl, if_pos rfl, one_mul]
    rcases lt_or_gt_of_ne hik with h | h
    · rw [I.zeroRow i j (mem_range.mp hi) hj h, mul_zero]
    · rw [hx i (mem_range.mp hi) h.le, if_neg h.ne, zero_mul]
  have hA : ∀ j, j < n → ∑ i ∈ range n, x i * A i j = R k j := fun j hj => by
    rw [sum_congr rfl fun i hi => by rw [I.decomp i j (mem_range.mp hi) hj, mul_add, mul_sum], sum_add_distrib, sum_comm,
      sum_eq_zero fun c hc => by
        rw [sum_congr rfl fun i _ => (mul_assoc (x i) (L i c) (L j c)).symm, ← sum_mul, hL c (mem_range.mp hc), zero_mul],
      zero_add, hR j hj]
  refine (hpd x ⟨k, hk, by rw [hx k hk le_rfl, if_pos rfl]; exact one_ne_zero⟩).trans_eq ?_
  rw [sum_comm, sum_congr rfl fun j hj => by
    rw [← sum_mul, hA j (mem_range.mp hj), I.symm k j hk (mem_range.mp hj), mul_comm], hR k hk]

theorem chol_pivots_of_posdef (n : Nat) (A : Mat ℝ) (hs : ∀ i j, i < n → j < n → A i j = A j i) (hpd : PosDef n A) :
    Pivots n A := by
  intro k
  induction k using Nat.strong_induction_on with
  | _ k ih =>
    -- the invariant after `k` steps needs the pivots below `k` only
    exact fun hk => pivot_pos n A k hk _ _ (inv_run_upto n A hs k fun m hm => ih m hm (hm.trans hk)) hpd

theorem chol_of_posdef (n : Nat) (A : Mat ℝ) (hs : ∀ i j, i < n → j < n → A i j = A j i) (hpd : PosDef n A) :
    (∀ i c, i < c → cholesky n A i c = 0) ∧ (∀ c, c < n → 0 < cholesky n A c c) ∧
    (∀ i j, i < n → j < n → ∑ c ∈ range n, cholesky n A i c * cholesky n A j c = A i j) ∧
    (∀ i j, i < n → j < n → ∑ k ∈ range n, cholesky n A i k * triInv n (cholesky n A) k j = if i = j then 1 else 0) ∧
    (∀ i j, i < n → j < n → ∑ k ∈ range n, triInv n (cholesky n A) i k * cholesky n A k j = if i = j then 1 else 0) := by
  have hp : pivotsOK n A = true := (pivotsOK_iff n A).mpr (chol_pivots_of_posdef n A hs hpd)
  obtain ⟨h1, h2, h3⟩ := chol_spec n A hs hp
  obtain ⟨h4, h5⟩ := chol_triInv n A hs hp
  exact ⟨h1, h2, h3, h4, h5⟩

/-- non-vacuity: the correlation matrix with `ρ = 1/2` is positive definite -/
example : PosDef 2 (fun i j => if i = j then (1 : ℝ) else 1 / 2) := by
  intro x ⟨i, hi, hxi⟩
  -- complete the square: `xᵀ A x = ( x₀ + x₁ / 2 )² + ¾ x₁²`
  have key : ∑ i ∈ range 2, ∑ j ∈ range 2, x i * (if i = j then (1 : ℝ) else 1 / 2) * x j
      = (x 0 + x 1 / 2) ^ 2 + 3 / 4 * x 1 ^ 2 := by
    simp only [Finset.sum_range_succ, Finset.sum_range_zero, zero_add, if_true, Nat.zero_ne_one, Nat.one_ne_zero, if_false]
    ring
  rw [key]
  by_cases h1 : x 1 = 0
  · have h0 : x 0 ≠ 0 := by
      rcases (by omega : i = 0 ∨ i = 1) with rfl | rfl
      · exact hxi
      · exact absurd h1 hxi
    rw [h1, zero_div, add_zero]
    exact add_pos_of_pos_of_nonneg (sq_pos_of_ne_zero h0) (mul_nonneg (by norm_num) (sq_nonneg _))
  · exact add_pos_of_nonneg_of_pos (sq_nonneg _) (mul_pos (by norm_num) (sq_pos_of_ne_zero h1))

end FF.Chol

namespace FF.Nataf
open FF.Linalg

/-- **the transformation built from an admissible (symmetric positive-definite) latent correlation matrix and admissible
marginals is well formed** — round trips, inverse Jacobians and derivative statements of `Proofs/C11Model.lean` all apply -/
theorem C11m_build_wf_of_posdef (n : Nat) (margs : Nat → Marg ℝ) (rhoZ : Mat ℝ)
    (hv : ∀ i, i < n → (margs i).Valid) (hs : ∀ i j, i < n → j < n → rhoZ i j = rhoZ j i)
    (hpd : Chol.PosDef n rhoZ) : WF (build n margs rhoZ) :=
  C11m_build_wf n margs rhoZ hv hs ((Chol.pivotsOK_iff n rhoZ).mpr (Chol.chol_pivots_of_posdef n rhoZ hs hpd))

end FF.Nataf
