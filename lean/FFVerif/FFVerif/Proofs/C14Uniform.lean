/-
C14 — the step from the decision rule to the kernel.

`Proofs/C14.lean` proves the rule of the executable sampler model (`accepts`: the move is made exactly when
`u · f(cur) ≤ f(cand)`), `Proofs/C14Balance.lean` / `C14Continuous.lean` prove detailed balance of the kernel
whose acceptance probability is `min 1 (f(cand)/f(cur))`.  This file proves the link between the two: for a
draw `u` uniform on `[0, 1)` (what `numpy.random.Generator.uniform()` returns; Lebesgue measure restricted to
the unit interval) the set of draws on which the rule accepts has measure exactly `min 1 (f(cand)/f(cur))`,
and the rule of the executable model on a rational draw is that very inequality at the reals.  The draws on
which a candidate of density 0 is accepted (only `u = 0`, the known finding of C14) have measure 0, so the
finding does not change the kernel.
-/
import Mathlib.MeasureTheory.Measure.Lebesgue.Basic
import FFVerif.Proofs.C14
import FFVerif.Proofs.C14Balance

namespace FF
open MeasureTheory Set
open FF.Sampler

theorem C14u_accepts_iff (fcur fcand : Int) (uNum uDen : Nat) (hd : 0 < uDen) :
    accepts fcur fcand uNum uDen = true ↔ ((uNum : ℝ) / (uDen : ℝ)) * (fcur : ℝ) ≤ (fcand : ℝ) := by
  have hD : (0 : ℝ) < (uDen : ℝ) := Nat.cast_pos.mpr hd
  rw [div_mul_eq_mul_div, div_le_iff₀ hD, accepts_iff, ← @Int.cast_le ℝ,
    Int.cast_mul, Int.cast_mul, Int.cast_natCast, Int.cast_natCast]

/-- `hb` is not used: for `b < 0` both sides are `0` -/
theorem C14u_accept_probability (a b : ℝ) (ha : 0 < a) (hb : 0 ≤ b) :
    volume {u : ℝ | u ∈ Ico (0 : ℝ) 1 ∧ u * a ≤ b} = ENNReal.ofReal (min 1 (b / a)) := by
  have hset : {u : ℝ | u ∈ Ico (0 : ℝ) 1 ∧ u * a ≤ b} = Ico (0 : ℝ) 1 ∩ Iic (b / a) := by
    ext u; simp only [mem_ofPred_eq, mem_inter_iff, mem_Iic, le_div_iff₀ ha]
  -- up to the single point `b / a` the accepting draws are `[0, min 1 (b / a))`
  rw [hset, measure_congr (ae_eq_set_inter (s := Ico (0 : ℝ) 1) (ae_eq_refl _) Iio_ae_eq_Iic.symm),
    Ico_inter_Iio, Real.volume_Ico, sub_zero]

theorem C14u_zero_density_measure (a : ℝ) (ha : 0 < a) :
    volume {u : ℝ | u ∈ Ico (0 : ℝ) 1 ∧ u * a ≤ 0} = 0 := by
  rw [C14u_accept_probability a 0 ha le_rfl, zero_div, min_eq_right zero_le_one, ENNReal.ofReal_zero]

theorem C14u_zero_density_set (a : ℝ) (ha : 0 < a) :
    {u : ℝ | u ∈ Ico (0 : ℝ) 1 ∧ u * a ≤ 0} = {0} := by
  ext u
  have h : u * a ≤ 0 ↔ u ≤ 0 := by rw [← not_lt, ← not_lt, mul_pos_iff_of_pos_right ha]
  simp only [mem_ofPred_eq, mem_Ico, mem_singleton_iff, h]
  exact ⟨fun h => le_antisymm h.2 h.1.1, fun h => h.symm ▸ ⟨⟨le_rfl, zero_lt_one⟩, le_rfl⟩⟩

/-- the off-diagonal entry of the kernel of `C14Balance` IS: probability of proposing `y`, times the measure of the
accepting draws of the rule, times the domain test — so the detailed-balance theorems are about the kernel induced by
the rule with a uniform draw -/
theorem C14u_weight_from_rule {S : Type*} [Fintype S] [DecidableEq S] (q : S → S → ℝ) (π : S → ℝ)
    (D : S → Prop) [DecidablePred D] (x y : S) (hx : 0 < π x) (hy : 0 ≤ π y) :
    q x y * (volume {u : ℝ | u ∈ Ico (0 : ℝ) 1 ∧ u * π x ≤ π y}).toReal * (if D y then 1 else 0)
      = mhWeight q π D x y := by
  unfold mhWeight
  rw [C14u_accept_probability (π x) (π y) hx hy, ENNReal.toReal_ofReal (min_one_div_nonneg hx hy)]

/-- non-vacuity: density 3 at the current point, 2 at the candidate: accepted on `[0, 2/3]`, probability 2/3;
the executable rule on the draw 2/3 accepts and on 7/10 rejects -/
example : volume {u : ℝ | u ∈ Ico (0 : ℝ) 1 ∧ u * 3 ≤ 2} = ENNReal.ofReal (2 / 3) := by
  rw [C14u_accept_probability 3 2 (by norm_num) (by norm_num)]
  congr 1
  rw [min_eq_right]; norm_num
example : accepts 3 2 2 3 = true ∧ accepts 3 2 7 10 = false := by decide

end FF
