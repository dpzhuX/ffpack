/-
C11 — the Cholesky factor and the triangular inverse used by the executable Nataf model (`Model/Chol.lean`), at the reals.
The elimination keeps the invariant `Inv`: `A = Σ_{c<k} l_c l_cᵀ + R` with `R` symmetric and zero on the rows `< k`; so for a
symmetric matrix whose pivots are all positive (`pivotsOK`, the condition under which `np.linalg.cholesky` returns) the factor
is lower triangular with positive diagonal and `L Lᵀ = A` on the `n × n` block.  Forward substitution fills row `r` of the
inverse once (`rowOf`) from the rows above it, whence `L X = 1`; `X L = 1` follows through Mathlib's matrices.
-/
import Mathlib.Data.Matrix.Mul
import Mathlib.LinearAlgebra.Matrix.NonsingularInverse
import FFVerif.Lemmas.LinalgReal
import FFVerif.Model.Chol
namespace FF.Chol
open FF.Linalg Finset

theorem column_real (A : Mat ℝ) (k i : Nat) :
    column A k i = if i < k then 0 else A i k / Real.sqrt (A k k) := by
  unfold column; rw [zero_real, sqrt_real]

theorem step_real (n : Nat) (st : Mat ℝ × Mat ℝ) (k : Nat) :
    step n st k = (fun i j => st.1 i j - column st.1 k i * column st.1 k j,
                   fun i j => if j = k then column st.1 k i else st.2 i j) := by
  unfold step; simp only [ofArr_mkArr, ofArr2_mkArr2]

/-- the invariant of the elimination after `k` steps, on the `n × n` block -/
structure Inv (n : Nat) (A : Mat ℝ) (k : Nat) (R L : Mat ℝ) : Prop where
  symm : ∀ i j, i < n → j < n → R i j = R j i
  zeroRow : ∀ i j, i < n → j < n → i < k → R i j = 0
  decomp : ∀ i j, i < n → j < n → A i j = (∑ c ∈ range k, L i c * L j c) + R i j
  lower : ∀ i c, i < c → L i c = 0
  unfilled : ∀ i c, k ≤ c → L i c = 0
  diag : ∀ c, c < k → 0 < L c c

def Pivots (n : Nat) (A : Mat ℝ) : Prop := ∀ k, k < n → 0 < (run n A k).1 k k

theorem pivotsOK_iff (n : Nat) (A : Mat ℝ) : pivotsOK n A = true ↔ Pivots n A := by
  unfold pivotsOK Pivots
  simp only [List.all_eq_true, List.mem_range, ltb_real, zero_real]

theorem Inv.succ {n : Nat} {A : Mat ℝ} {k : Nat} {R L : Mat ℝ} (I : Inv n A k R L) (hpk : 0 < R k k) :
    Inv n A (k + 1) (step n (R, L) k).1 (step n (R, L) k).2 := by
  have hd : 0 < Real.sqrt (R k k) := Real.sqrt_pos.mpr hpk
  -- new residual `R i j - c i * c j`, new factor `if j = k then c i else L i j`, where the column `c = column R k`
  -- is zero above the pivot and `sqrt` of the pivot on it
  rw [step_real]
  dsimp only
  have colk : column R k k = Real.sqrt (R k k) := by rw [column_real, if_neg (lt_irrefl k), Real.div_sqrt]
  have collt : ∀ i, i < k → column R k i = 0 := fun i h => by rw [column_real, if_pos h]
  refine ⟨?_, ?_, ?_, ?_, ?_, ?_⟩
  · intro i j hi hj
    rw [I.symm i j hi hj, mul_comm]
  · intro i j hi hj hik
    rcases Nat.lt_succ_iff_lt_or_eq.mp hik with h | h
    · rw [I.zeroRow i j hi hj h, collt i h, zero_mul, sub_zero]
    · subst h
      rw [colk, column_real]
      split
      · next hj' => rw [I.symm i j hi hj, I.zeroRow j i hj hi hj', mul_zero, sub_zero]
      · rw [I.symm j i hj hi, mul_div_cancel₀ _ hd.ne', sub_self]
  · intro i j hi hj
    rw [Finset.sum_range_succ, if_pos rfl, if_pos rfl,
      Finset.sum_congr rfl fun c hc => by rw [if_neg (Finset.mem_range.mp hc).ne, if_neg (Finset.mem_range.mp hc).ne],
      I.decomp i j hi hj]
    ring
  · intro i c hic
    split
    · next h => subst h; exact collt i hic
    · exact I.lower i c hic
  · intro i c hc
    rw [if_neg (Nat.ne_of_gt hc)]
    exact I.unfilled i c (Nat.le_of_succ_le hc)
  · intro c hc
    split
    · next h => subst h; rw [colk]; exact hd
    · next h => exact I.diag c (Nat.lt_of_le_of_ne (Nat.le_of_lt_succ hc) h)

/-- the invariant after `k` steps needs the pivots below `k` only -/
theorem inv_run_upto (n : Nat) (A : Mat ℝ) (hs : ∀ i j, i < n → j < n → A i j = A j i) :
    ∀ k, (∀ m, m < k → 0 < (run n A m).1 m m) → Inv n A k (run n A k).1 (run n A k).2
  | 0, _ => ⟨hs, fun _ _ _ _ h => absurd h (Nat.not_lt_zero _), fun i j _ _ => by
        show A i j = _ + A i j
        rw [range_zero, sum_empty, zero_add],
      fun _ _ _ => zero_real, fun _ _ _ => zero_real, fun _ h => absurd h (Nat.not_lt_zero _)⟩
  | k + 1, hp =>
    (inv_run_upto n A hs k fun m hm => hp m (Nat.lt_succ_of_lt hm)).succ (hp k (Nat.lt_succ_self k))

theorem chol_spec (n : Nat) (A : Mat ℝ) (hs : ∀ i j, i < n → j < n → A i j = A j i) (hp : pivotsOK n A = true) :
    (∀ i c, i < c → cholesky n A i c = 0) ∧ (∀ c, c < n → 0 < cholesky n A c c) ∧
    (∀ i j, i < n → j < n → ∑ c ∈ range n, cholesky n A i c * cholesky n A j c = A i j) := by
  have I := inv_run_upto n A hs n ((pivotsOK_iff n A).mp hp)
  refine ⟨I.lower, I.diag, ?_⟩
  intro i j hi hj
  have := I.decomp i j hi hj
  rw [I.zeroRow i j hi hj hi, add_zero] at this
  exact this.symm

/-- the two pivots of a `2 × 2` matrix: `A₀₀` and `A₁₁ - ( A₁₀ / √A₀₀ )²` -/
theorem pivots_two (A : Mat ℝ) (h0 : 0 < A 0 0)
    (h1 : 0 < A 1 1 - A 1 0 / Real.sqrt (A 0 0) * (A 1 0 / Real.sqrt (A 0 0))) : Pivots 2 A := by
  intro k hk
  obtain rfl | rfl : k = 0 ∨ k = 1 := by omega
  · exact h0
  · show 0 < (step 2 (A, _) 0).1 1 1
    rw [step_real]
    show 0 < A 1 1 - column A 0 1 * column A 0 1
    rw [column_real, if_neg (Nat.not_lt_zero 1)]
    exact h1

/-- the correlation matrix `[[1, r], [r, 1]]` has the pivots `1` and `1 - r²` -/
theorem pivots_corr_two (r : ℝ) (h : r * r < 1) : Pivots 2 (fun i j => if i = j then 1 else r) :=
  pivots_two _ one_pos (by
    rw [if_pos rfl, if_pos rfl, if_neg Nat.one_ne_zero, Real.sqrt_one, div_one]; exact sub_pos.mpr h)

/-- non-vacuity: the 2×2 correlation matrix with ρ = 1/2 has positive pivots (1 and 3/4) -/
example : Pivots 2 (fun i j => if i = j then (1 : ℝ) else 1 / 2) :=
  pivots_corr_two _ (by norm_num)

theorem invRows_succ (n : Nat) (L : Mat ℝ) (i : Nat) :
    (invRows n L (i + 1)).1 = fun r j => if r = i then
      ((if i = j then 1 else 0) - ∑ k ∈ range i, L i k * (invRows n L i).1 k j) / L i i
      else (invRows n L i).1 r j := by
  funext r j
  simp only [invRows, ofArr_mkArr, fsum_real, one_real, zero_real]

/-- row `r` once it has been filled -/
noncomputable def rowOf (n : Nat) (L : Mat ℝ) (r j : Nat) : ℝ := (invRows n L (r + 1)).1 r j

theorem invRows_stable (n : Nat) (L : Mat ℝ) (r j : Nat) :
    ∀ m, r < m → (invRows n L m).1 r j = rowOf n L r j := by
  refine Nat.le_induction rfl fun m hm ih => ?_
  rw [invRows_succ]
  exact (if_neg (Nat.ne_of_lt hm)).trans ih

theorem rowOf_eq (n : Nat) (L : Mat ℝ) (r j : Nat) :
    rowOf n L r j = ((if r = j then 1 else 0) - ∑ k ∈ range r, L r k * rowOf n L k j) / L r r := by
  show (invRows n L (r + 1)).1 r j = _
  rw [invRows_succ]
  refine (if_pos rfl).trans ?_
  rw [Finset.sum_congr rfl fun k hk => by rw [invRows_stable n L k j r (Finset.mem_range.mp hk)]]

theorem triInv_eq (n : Nat) (L : Mat ℝ) (r j : Nat) (hr : r < n) : triInv n L r j = rowOf n L r j := by
  unfold triInv
  exact invRows_stable n L r j n hr

theorem rowOf_lower (n : Nat) (L : Mat ℝ) : ∀ r j, r < j → rowOf n L r j = 0 := by
  intro r
  induction r using Nat.strong_induction_on with
  | _ r ih =>
    intro j hj
    rw [rowOf_eq, if_neg (Nat.ne_of_lt hj), Finset.sum_eq_zero fun k hk => by
      rw [ih k (Finset.mem_range.mp hk) j (Nat.lt_trans (Finset.mem_range.mp hk) hj), mul_zero], sub_zero, zero_div]

theorem triInv_spec (n : Nat) (L : Mat ℝ) (hl : ∀ i c, i < c → L i c = 0) (hd : ∀ c, c < n → L c c ≠ 0) :
    ∀ i j, i < n → j < n → ∑ k ∈ range n, L i k * triInv n L k j = if i = j then 1 else 0 := by
  intro i j hi hj
  -- the rows of `triInv` are the `rowOf`, and only `k ≤ i` contribute
  rw [Finset.sum_congr rfl fun k hk => by rw [triInv_eq n L k j (Finset.mem_range.mp hk)],
    ← Finset.sum_subset (Finset.range_mono (Nat.succ_le_of_lt hi)) fun k _ hk => by
      rw [hl i k (Nat.not_lt.mp (Finset.mem_range.not.mp hk)), zero_mul],
    Finset.sum_range_succ, rowOf_eq n L i j, mul_div_cancel₀ _ (hd i hi), add_sub_cancel]

/-- the `n × n` block as a matrix over `Fin n` (`Mat ℝ` is `Matrix ℕ ℕ ℝ`) -/
theorem submatrix_mul_eq_one_iff (n : Nat) (A B : Matrix ℕ ℕ ℝ) :
    (A.submatrix Fin.val Fin.val * B.submatrix Fin.val Fin.val : Matrix (Fin n) (Fin n) ℝ) = 1 ↔
      ∀ i j, i < n → j < n → ∑ k ∈ range n, A i k * B k j = if i = j then 1 else 0 := by
  constructor
  · intro h i j hi hj
    have := congrFun (congrFun h ⟨i, hi⟩) ⟨j, hj⟩
    simp only [Matrix.mul_apply, Matrix.submatrix_apply, Matrix.one_apply, Fin.mk.injEq] at this
    rw [← this, Finset.sum_range]
  · intro h
    ext i j
    simp only [Matrix.mul_apply, Matrix.submatrix_apply, Matrix.one_apply]
    rw [← Finset.sum_range (fun k => A i k * B k j), h i j i.isLt j.isLt]
    simp only [Fin.ext_iff]

theorem triInv_left (n : Nat) (L : Mat ℝ) (hl : ∀ i c, i < c → L i c = 0) (hd : ∀ c, c < n → L c c ≠ 0) :
    ∀ i j, i < n → j < n → ∑ k ∈ range n, triInv n L i k * L k j = if i = j then 1 else 0 :=
  (submatrix_mul_eq_one_iff n (triInv n L) L).mp
    (_root_.mul_eq_one_comm.mp ((submatrix_mul_eq_one_iff n L (triInv n L)).mpr (triInv_spec n L hl hd)))

/-- the two factors the Nataf model is built from: `L Lᵀ = rhoZ`, `L L⁻¹ = L⁻¹ L = 1` -/
theorem chol_triInv (n : Nat) (A : Mat ℝ) (hs : ∀ i j, i < n → j < n → A i j = A j i) (hp : pivotsOK n A = true) :
    (∀ i j, i < n → j < n → ∑ k ∈ range n, cholesky n A i k * triInv n (cholesky n A) k j = if i = j then 1 else 0) ∧
    (∀ i j, i < n → j < n → ∑ k ∈ range n, triInv n (cholesky n A) i k * cholesky n A k j = if i = j then 1 else 0) := by
  obtain ⟨hl, hd, _⟩ := chol_spec n A hs hp
  exact ⟨triInv_spec n _ hl (fun c hc => (hd c hc).ne'), triInv_left n _ hl (fun c hc => (hd c hc).ne')⟩

end FF.Chol
