/-
C01 — property theorems.  Two clauses stand next to their lemmas: `C01_maxrange` in Lemmas/RainflowMax.lean and
`C01_whole_closed` in Lemmas/RainflowClosed.lean.
`rainflow` is the code-shaped model of `astmRainflowCounting` (tied to the Python by the
correspondence check); `astm`/`reversals` are the specification.
-/
import FFVerif.Lemmas.Rainflow
import FFVerif.Lemmas.PeakValley
import FFVerif.Lemmas.Table
import FFVerif.Props.C01
import FFVerif.Lemmas.RainflowMax
import FFVerif.Lemmas.RainflowClosed
namespace FF

/-- cycle by cycle (hence as a multiset), the deque loop equals the three-point procedure on the
reversal sequence — for every history -/
theorem C01_impl_eq_spec (h : List Int) : rainflow h = astm (reversals h) := by
  rw [rainflow_eq_astm, pv_true_eq_reversals]

theorem C01_multiset (h : List Int) : C01.multisetOK h (rainflow h) = true := by
  unfold C01.multisetOK; rw [C01_impl_eq_spec]; exact List.isPerm_iff.mpr (List.Perm.refl _)

/-- the aggregated table is exactly the histogram of the cycle list -/
theorem C01_table (h : List Int) : C01.tableOK (rainflow h) (table (rainflow h)) = true :=
  isHistogram_table _

/-- counts total (R-1)/2 -/
theorem C01_total (h : List Int) (hne : h ≠ []) : C01.totalOK h (rainflow h) = true := by
  have hR : reversals h ≠ [] := by
    match h, hne with
    | [x], _ => simp [reversals]
    | x :: y :: rest, _ => simp [reversals]
  unfold C01.totalOK
  rw [C01_impl_eq_spec]
  simpa using (astm_census _ hR).1

/-- all clauses of the executable predicate at once, for every non-constant history -/
theorem C01_all (h : List Int) (hc : isConstant h = false) :
    C01.failing h (rainflow h) (table (rainflow h)) = [] := by
  have hne : h ≠ [] := by intro e; subst e; simp [isConstant] at hc
  simp [C01.failing, C01_multiset, C01_table, C01_total h hne, C01_maxrange h hc]

-- non-vacuity: the ASTM E1049 figure-6 history (seven counts, one closed loop -1..3)
example : rainflow [-2, 1, -3, 5, -1, 3, -4, 4, -2] =
    [⟨-2, 1, true⟩, ⟨1, -3, true⟩, ⟨-1, 3, false⟩, ⟨-3, 5, true⟩, ⟨5, -4, true⟩, ⟨-4, 4, true⟩, ⟨4, -2, true⟩] := by
  simp [rainflow, pv, pvGo, implGo, rng, halves]

end FF
