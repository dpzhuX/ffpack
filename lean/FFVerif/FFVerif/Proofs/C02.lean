/-
C02 — property theorems: every counter returns a consistent, bounded and conserved census.
`Counter.run` are the code-shaped models (tied to the Python by exact correspondence).
-/
import FFVerif.Lemmas.Repeat
import FFVerif.Lemmas.Filter
import FFVerif.Lemmas.Table
import FFVerif.Props.C02
namespace FF
open C02

/-- the counter-specific core, proved per counter in `census_core` -/
structure CensusCore (k : Counter) (h : List Int) : Prop where
  good : ∀ c ∈ k.run h, Good (pv true h) c
  whole : k.exact = false → ∀ c ∈ k.run h, c.half = false
  total : if k.exact then totalUnits (k.run h) + 1 = (pv true h).length
          else totalUnits (k.run h) + 1 ≤ (pv true h).length

/-- the five counters of whole cycles -/
theorem CensusCore.ofWhole {k : Counter} {h : List Int} (hk : k.exact = false)
    (g : ∀ c ∈ k.run h, GoodW (pv true h) c) (t : totalUnits (k.run h) + 1 ≤ (pv true h).length) :
    CensusCore k h :=
  ⟨fun c hc => (g c hc).1, fun _ c hc => (g c hc).2, by rw [hk]; exact t⟩

theorem census_core (k : Counter) (h : List Int) (hc : isConstant h = false) : CensusCore k h := by
  have hz : Zig (pv true h) := pv_zig h hc
  have hR := pv_ne_nil hc
  cases k with
  | simple =>
    refine ⟨halves_good _ hz, fun e => by simp [Counter.exact] at e, ?_⟩
    have := List.length_pos_iff.mpr hR
    simp only [Counter.exact, Counter.run, simpleRange, if_true, totalUnits_halves]; omega
  | rainflow =>
    have e : Counter.rainflow.run h = astm (pv true h) := rainflow_eq_astm h
    obtain ⟨t, g⟩ := astm_census (pv true h) hR
    exact ⟨by rw [e]; exact g hz, fun e => by simp [Counter.exact] at e, by rw [e]; simpa [Counter.exact] using t⟩
  | rangepair =>
    have cen := (rangePair_census h).1
    exact .ofWhole rfl (cen.goodW hz) (cen.total_le hR)
  | repeating =>
    obtain ⟨g, t⟩ := repeat_spec (pv true h) hR
    exact .ofWhole rfl g t
  | fourpoint =>
    have cen := fpGo_census (pv true h) [] (Census.start true _)
    exact .ofWhole rfl (cen.goodW hz) (cen.total_le hR)
  | rychlik => exact .ofWhole rfl (peaksGo_good _ rychlik_fn [] _) (peaksGo_total _ rychlik_fn _ hR)
  | johannesson => exact .ofWhole rfl (peaksGo_good _ johannesson_fn [] _) (peaksGo_total _ johannesson_fn _ hR)

theorem C02_histogram (k : Counter) (h : List Int) :
    histogramOK (k.run h) (table (k.run h)) = true := isHistogram_table _

theorem C02_ranges (k : Counter) (h : List Int) (hc : isConstant h = false) :
    rangesOK h (k.run h) = true := by
  have core := census_core k h hc
  simp only [rangesOK, List.all_eq_true, Bool.and_eq_true, decide_eq_true_eq]
  intro c hcm
  obtain ⟨ha, hb, hne⟩ := core.good c hcm
  refine ⟨?_, rng_le_span ((pv_sublist true h).subset ha) ((pv_sublist true h).subset hb)⟩
  unfold Cyc.range rng; omega

theorem C02_endpoints (k : Counter) (h : List Int) (hc : isConstant h = false) :
    endpointsOK h (k.run h) = true := by
  have core := census_core k h hc
  simp only [endpointsOK, List.all_eq_true, Bool.and_eq_true, List.contains_iff_mem,
    ← pv_true_eq_reversals]
  exact fun c hcm => ⟨(core.good c hcm).1, (core.good c hcm).2.1⟩

theorem C02_total (k : Counter) (h : List Int) (hc : isConstant h = false) :
    totalOK k h (k.run h) = true := by
  have core := (census_core k h hc).total
  unfold totalOK; rw [← pv_true_eq_reversals]
  cases hk : k.exact <;> simp [hk] at core ⊢ <;> omega

theorem C02_wholes (k : Counter) (h : List Int) (hc : isConstant h = false) :
    wholesOK k (k.run h) = true := by
  have core := census_core k h hc
  unfold wholesOK
  cases hk : k.exact
  · simp only [Bool.false_or, List.all_eq_true, Bool.not_eq_true']
    exact fun c hcm => core.whole hk c hcm
  · rfl

/-- range-pair leaves at most one uncounted range -/
theorem C02_leftover (k : Counter) (h : List Int) (hc : isConstant h = false) :
    leftoverOK k h (k.run h) = true := by
  unfold leftoverOK
  by_cases hk : k = .rangepair
  · subst hk
    obtain ⟨b, hlen⟩ := rangePair_census h
    have := b.units
    rw [← pv_true_eq_reversals]
    simp only [List.length_reverse] at this
    simp only [bne_self_eq_false, Bool.false_or, decide_eq_true_eq]
    show (pv true h).length ≤ totalUnits (rangePair h) + 2
    omega
  · simp [hk]

/-- all clauses at once: the predicate evaluated by the checker on the implementation's output
holds of the model's output for every counter and every non-constant history -/
theorem C02_census (k : Counter) (h : List Int) (hc : isConstant h = false) :
    C02.failing k h (k.run h) (table (k.run h)) = [] := by
  simp [C02.failing, C02_histogram, C02_ranges k h hc, C02_endpoints k h hc, C02_total k h hc,
    C02_wholes k h hc, C02_leftover k h hc]

-- non-vacuity: a non-constant history exists, and the range-pair witness of the repaired defect
example : isConstant [0, 4, 1, 3, 2] = false := by decide
example : rangePair [0, 4, 1, 3, 2] = [⟨3, 2, false⟩, ⟨4, 1, false⟩] := by
  simp [rangePair, rangePairFull, pv, pvGo, rpForward, rpReduce, rpBack, rng]

end FF
