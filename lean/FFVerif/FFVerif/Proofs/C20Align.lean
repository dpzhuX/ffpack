/-
C20 (alignment) — the list that `mgs` (FFVerif/Proofs/C20Gram.lean) runs on.  The Python code
builds it from a full-rank matrix `A` (columns `a_0 … a_{n-1}`) and an alignment vector `v`:
normally `v :: [a_1, …, a_{n-1}]`; when `v` is (numerically) parallel to column `i ≥ 1` the repaired
code uses `v :: (all columns except a_i, in order)`.

Both re-ordered lists are a family with one member replaced, listed with the new member first: `mgs_update_spec` treats
that once (it also serves the curvature basis of `C12Basis`), and the two re-ordering theorems below instantiate it.
-/
import Mathlib.LinearAlgebra.LinearIndependent.Basic
import Mathlib.LinearAlgebra.LinearIndependent.Lemmas
import Mathlib.Data.List.FinRange
import Mathlib.Data.List.Nodup
import FFVerif.Proofs.C20Gram
namespace FF

section Align
variable {E : Type*} [NormedAddCommGroup E] [InnerProductSpace ℝ E]

theorem linearIndependent_list_map {ι : Type*} (f : ι → E) (hf : LinearIndependent ℝ f)
    (p : List ι) (hp : p.Nodup) :
    LinearIndependent ℝ (fun k : Fin (p.map f).length => (p.map f).get k) := by
  have hlen : (p.map f).length = p.length := List.length_map f
  have e : f ∘ p.get ∘ Fin.cast hlen = fun k : Fin (p.map f).length => (p.map f).get k :=
    funext fun k => (List.getElem_map f).symm
  exact e ▸ hf.comp _ ((List.nodup_iff_injective_get.mp hp).comp (Fin.cast_injective hlen))

theorem linearIndependent_update_list {n : ℕ} (g : Fin n → E) (i : Fin n) (x : E)
    (h : LinearIndependent ℝ (Function.update g i x)) :
    let l : List E := x :: ((List.finRange n).filter (· ≠ i)).map g
    LinearIndependent ℝ (fun k : Fin l.length => l.get k) ∧ l.length = n := by
  intro l
  -- the index list `i :: (all others)` is a permutation of all indices, hence duplicate-free and of length `n`
  have hperm : (i :: (List.finRange n).filter (· ≠ i)).Perm (List.finRange n) := by
    have h : (List.finRange n).filter (· ≠ i) = (List.finRange n).erase i := by
      rw [(List.nodup_finRange n).erase_eq_filter i]
      exact List.filter_congr fun x _ => by rw [bne, decide_not, beq_eq_decide]
    rw [h]
    exact (List.perm_cons_erase (List.mem_finRange i)).symm
  have hl : l = (i :: (List.finRange n).filter (· ≠ i)).map (Function.update g i x) := by
    simp only [l, List.map_cons, Function.update_self]
    congr 1
    refine List.map_congr_left fun j hj => (Function.update_of_ne ?_ _ _).symm
    exact of_decide_eq_true (List.mem_filter.mp hj).2
  rw [hl]
  exact ⟨linearIndependent_list_map _ h _ (hperm.nodup_iff.mpr (List.nodup_finRange n)),
    by rw [List.length_map, hperm.length_eq, List.length_finRange]⟩

theorem mgs_update_spec {n : ℕ} (g : Fin n → E) (i : Fin n) (x : E)
    (h : LinearIndependent ℝ (Function.update g i x)) :
    let l : List E := x :: ((List.finRange n).filter (· ≠ i)).map g
    (mgs l).length = n ∧ Orthonormal ℝ (fun k : Fin (mgs l).length => (mgs l).get k) := by
  intro l
  obtain ⟨hli, hlen⟩ := linearIndependent_update_list g i x h
  exact ⟨(length_mgs l).trans hlen, (mgs_orthoList l hli).orthonormal⟩

/-- **C20, default alignment list.** If `v` together with the remaining columns is linearly
independent, the Gram–Schmidt output has the same length, is orthonormal, and starts with the
normalised `v`. -/
theorem C20_align_default_independent (v : E) (rest : List E)
    (hli : LinearIndependent ℝ (fun k : Fin (v :: rest).length => (v :: rest).get k)) :
    (mgs (v :: rest)).length = rest.length + 1 ∧
      Orthonormal ℝ (fun k : Fin (mgs (v :: rest)).length => (mgs (v :: rest)).get k) ∧
      (mgs (v :: rest)).head? = some ((‖v‖)⁻¹ • v) :=
  ⟨by rw [length_mgs, List.length_cons], (mgs_orthoList _ hli).orthonormal, C20_gramSchmidt_first v rest⟩

theorem linearIndependent_update_smul {n : ℕ} {a : Fin n → E} (ha : LinearIndependent ℝ a) (i : Fin n) {c : ℝ}
    (hc : c ≠ 0) : LinearIndependent ℝ (Function.update a i (c • a i)) :=
  ha.update i _ ⟨1, one_mem _, Finsupp.single i c,
    mem_nonZeroDivisors_of_ne_zero (by rwa [Finsupp.single_eq_same]),
    by rw [one_smul, Finsupp.linearCombination_single]⟩

theorem C20_align_replace_independent {n : ℕ} (a : Fin n → E) (ha : LinearIndependent ℝ a)
    (i : Fin n) (c : ℝ) (hc : c ≠ 0) :
    let l : List E := (c • a i) :: ((List.finRange n).filter (· ≠ i)).map a
    LinearIndependent ℝ (fun k : Fin l.length => l.get k) ∧ l.length = n :=
  linearIndependent_update_list a i (c • a i) (linearIndependent_update_smul ha i hc)

theorem normalize_smul (x : E) (c : ℝ) : ‖c • x‖⁻¹ • c • x = (c / ‖c‖) • ‖x‖⁻¹ • x := by
  rw [norm_smul, smul_smul, smul_smul, mul_inv, div_eq_mul_inv, mul_comm, ← mul_assoc]

/-- **C20, repaired alignment branch.** With the alignment vector a positive multiple of column `i`,
Gram–Schmidt on `v :: (all columns except a_i)` returns `n` orthonormal vectors, the first of which
is the normalised column `a_i`. -/
theorem C20_align_replace_orthonormal {n : ℕ} (a : Fin n → E) (ha : LinearIndependent ℝ a)
    (i : Fin n) (c : ℝ) (hc : 0 < c) :
    let l : List E := (c • a i) :: ((List.finRange n).filter (· ≠ i)).map a
    (mgs l).length = n ∧
      Orthonormal ℝ (fun k : Fin (mgs l).length => (mgs l).get k) ∧
      (mgs l).head? = some ((‖a i‖)⁻¹ • a i) := by
  have h := mgs_update_spec a i (c • a i) (linearIndependent_update_smul ha i hc.ne')
  exact ⟨h.1, h.2, by rw [C20_gramSchmidt_first, normalize_smul, Real.norm_of_nonneg hc.le, div_self hc.ne', one_smul]⟩

/-- **C20 / C12, anti-parallel alignment (repair da2d5c8).** With the alignment vector a *negative*
multiple of column `i` (the design direction of a limit state that grows with one variable only),
Gram–Schmidt on `v :: (all columns except a_i)` still returns `n` orthonormal vectors; the first one is
the opposite of the normalised column. -/
theorem C20_align_replace_orthonormal_neg {n : ℕ} (a : Fin n → E) (ha : LinearIndependent ℝ a)
    (i : Fin n) (c : ℝ) (hc : c < 0) :
    let l : List E := (c • a i) :: ((List.finRange n).filter (· ≠ i)).map a
    (mgs l).length = n ∧
      Orthonormal ℝ (fun k : Fin (mgs l).length => (mgs l).get k) ∧
      (mgs l).head? = some (-((‖a i‖)⁻¹ • a i)) := by
  have h := mgs_update_spec a i (c • a i) (linearIndependent_update_smul ha i hc.ne)
  exact ⟨h.1, h.2, by rw [C20_gramSchmidt_first, normalize_smul, Real.norm_of_nonpos hc.le, div_neg, div_self hc.ne, neg_one_smul]⟩

end Align

end FF
