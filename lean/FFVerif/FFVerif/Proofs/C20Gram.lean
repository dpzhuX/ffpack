/-
C20 — Gram–Schmidt clause of `gramSchmidOrth`: a code-shaped model of the two loops (inner loop:
successive subtraction of the components along the columns already built; outer loop: project, then
normalise) over an arbitrary real inner product space, and the property theorem: on a linearly
independent input the output has the same length, is orthonormal, starts with the normalised first
vector and spans the same subspace.  Plus the matrix clause `J * A = B` for `J = B * A⁻¹`.
-/
import Mathlib.Analysis.InnerProductSpace.Basic
import Mathlib.Analysis.InnerProductSpace.Orthonormal
import Mathlib.Analysis.Normed.Module.RCLike.Basic
import Mathlib.LinearAlgebra.LinearIndependent.Basic
import Mathlib.LinearAlgebra.Span.Basic
import Mathlib.LinearAlgebra.Matrix.NonsingularInverse
import Mathlib.Data.Real.Basic
namespace FF

section GramSchmidt
variable {E : Type*} [NormedAddCommGroup E] [InnerProductSpace ℝ E]

/-- inner loop: subtract, one after the other, the components along the columns already built -/
noncomputable def mgsProject (bs : List E) (cur : E) : E :=
  bs.foldl (fun c b => c - (inner ℝ b c / inner ℝ b b) • b) cur

/-- outer loop: the first vector is normalised, every later one is projected then normalised -/
noncomputable def mgs (vs : List E) : List E :=
  vs.foldl (fun bs v => bs ++ [(‖mgsProject bs v‖)⁻¹ • mgsProject bs v]) []

noncomputable def lspan (l : List E) : Submodule ℝ E := Submodule.span ℝ {x | x ∈ l}

/-- list form of orthonormality: earlier members are orthogonal to later ones, all have norm 1 -/
def OrthoList (l : List E) : Prop :=
  l.Pairwise (fun a b => inner ℝ a b = 0) ∧ ∀ x ∈ l, ‖x‖ = 1

@[simp] theorem mgsProject_nil (c : E) : mgsProject ([] : List E) c = c := rfl

theorem mgsProject_snoc (bs : List E) (b c : E) :
    mgsProject (bs ++ [b]) c
      = mgsProject bs c - (inner ℝ b (mgsProject bs c) / inner ℝ b b) • b :=
  List.foldl_append ..

@[simp] theorem mgs_nil : mgs ([] : List E) = [] := rfl

theorem mgs_snoc (vs : List E) (v : E) :
    mgs (vs ++ [v]) = mgs vs ++ [(‖mgsProject (mgs vs) v‖)⁻¹ • mgsProject (mgs vs) v] :=
  List.foldl_append ..

theorem length_mgs (vs : List E) : (mgs vs).length = vs.length := by
  induction vs using List.reverseRecOn with
  | nil => rfl
  | append_singleton vs v ih =>
    rw [mgs_snoc, List.length_append, List.length_append, ih, List.length_singleton, List.length_singleton]

theorem lspan_snoc (l : List E) (e : E) : lspan (l ++ [e]) = lspan l ⊔ Submodule.span ℝ {e} := by
  unfold lspan
  rw [← Submodule.span_union]
  congr 1
  ext x
  simp [or_comm]

theorem mem_lspan {l : List E} {x : E} (h : x ∈ l) : x ∈ lspan l :=
  Submodule.subset_span h

theorem mgsProject_spec (bs : List E) (hbs : OrthoList bs) (c : E) :
    (∀ b ∈ bs, inner ℝ b (mgsProject bs c) = 0) ∧ c - mgsProject bs c ∈ lspan bs := by
  induction bs using List.reverseRecOn with
  | nil => exact ⟨fun _ h => absurd h List.not_mem_nil, by rw [mgsProject_nil, sub_self]; exact zero_mem _⟩
  | append_singleton bs b ih =>
    have hpw := List.pairwise_append.mp hbs.1
    obtain ⟨ih1, ih2⟩ := ih ⟨hpw.1, fun x hx => hbs.2 x (List.mem_append_left _ hx)⟩
    have hbb : inner ℝ b b = 1 := by
      rw [real_inner_self_eq_norm_sq, hbs.2 b (List.mem_append_right _ (List.mem_singleton_self b)), one_pow]
    rw [mgsProject_snoc, hbb, div_one]
    refine ⟨fun b' hb' => ?_, ?_⟩
    · rw [inner_sub_right, real_inner_smul_right]
      rcases List.mem_append.mp hb' with hb' | hb'
      · rw [ih1 b' hb', hpw.2.2 b' hb' b (List.mem_singleton_self b), mul_zero, sub_zero]
      · rw [List.mem_singleton.mp hb', hbb, mul_one, sub_self]
    · rw [lspan_snoc, ← sub_add]
      exact Submodule.add_mem_sup ih2 (Submodule.smul_mem _ _ (Submodule.mem_span_singleton_self b))

theorem sup_span_singleton_congr {S : Submodule ℝ E} {u v : E} (h : v - u ∈ S) :
    S ⊔ Submodule.span ℝ {u} = S ⊔ Submodule.span ℝ {v} := by
  have key : ∀ {u v : E}, v - u ∈ S → S ⊔ Submodule.span ℝ {u} ≤ S ⊔ Submodule.span ℝ {v} := fun {u v} h => by
    refine sup_le le_sup_left ((Submodule.span_singleton_le_iff_mem _ _).mpr ?_)
    rw [← sub_sub_cancel v u]
    exact Submodule.sub_mem _ (Submodule.mem_sup_right (Submodule.mem_span_singleton_self v)) (Submodule.mem_sup_left h)
  exact le_antisymm (key h) (key (by rw [← neg_sub]; exact S.neg_mem h))

theorem mgs_step (bs : List E) (hbs : OrthoList bs) (v : E) (hv : v ∉ lspan bs) :
    OrthoList (bs ++ [(‖mgsProject bs v‖)⁻¹ • mgsProject bs v]) ∧
      lspan (bs ++ [(‖mgsProject bs v‖)⁻¹ • mgsProject bs v]) = lspan bs ⊔ Submodule.span ℝ {v} := by
  obtain ⟨horth, hdiff⟩ := mgsProject_spec bs hbs v
  -- the projected vector is not zero: otherwise `v` itself would lie in the span
  have hu0 : mgsProject bs v ≠ 0 := fun h0 => hv (by rwa [h0, sub_zero] at hdiff)
  refine ⟨⟨List.pairwise_append.mpr ⟨hbs.1, List.pairwise_singleton _ _, fun a ha b hb => ?_⟩, fun x hx => ?_⟩, ?_⟩
  · rw [List.mem_singleton.mp hb, real_inner_smul_right, horth a ha, mul_zero]
  · rcases List.mem_append.mp hx with hx | hx
    · exact hbs.2 x hx
    · rw [List.mem_singleton.mp hx]; exact norm_smul_inv_norm (𝕜 := ℝ) hu0
  · rw [lspan_snoc, Submodule.span_singleton_smul_eq (IsUnit.mk0 _ (inv_ne_zero (norm_ne_zero_iff.mpr hu0))),
      sup_span_singleton_congr hdiff]

/-- a linearly independent list stays so without its last member, and that member is not in the span of the others -/
theorem linearIndependent_of_snoc {vs : List E} {v : E}
    (h : LinearIndependent ℝ (fun i : Fin (vs ++ [v]).length => (vs ++ [v]).get i)) :
    LinearIndependent ℝ (fun i : Fin vs.length => vs.get i) ∧ v ∉ lspan vs := by
  have hlen : vs.length < (vs ++ [v]).length := by rw [List.length_append]; exact Nat.lt_succ_self _
  constructor
  · have e : (fun i : Fin (vs ++ [v]).length => (vs ++ [v]).get i) ∘ Fin.castLE hlen.le = fun i => vs.get i :=
      funext fun i => List.getElem_append_left i.2
    exact e ▸ h.comp _ (Fin.castLE_injective _)
  · intro hmem
    have hnot := h.notMem_span_image (s := {j | j.1 < vs.length}) (x := ⟨vs.length, hlen⟩) (Nat.lt_irrefl _)
    rw [List.get_eq_getElem, List.getElem_concat_length rfl] at hnot
    refine hnot (Submodule.span_mono (fun x hx => ?_) hmem)
    obtain ⟨i, hi, rfl⟩ := List.mem_iff_getElem.mp hx
    exact ⟨⟨i, hi.trans hlen⟩, hi, List.getElem_append_left hi⟩

theorem mgs_invariant (vs : List E) (hli : LinearIndependent ℝ (fun i : Fin vs.length => vs.get i)) :
    OrthoList (mgs vs) ∧ lspan (mgs vs) = lspan vs := by
  induction vs using List.reverseRecOn with
  | nil => exact ⟨⟨List.Pairwise.nil, fun _ h => absurd h List.not_mem_nil⟩, rfl⟩
  | append_singleton vs v ih =>
    obtain ⟨hli', hv⟩ := linearIndependent_of_snoc hli
    obtain ⟨ih2, ih3⟩ := ih hli'
    rw [mgs_snoc]
    obtain ⟨h1, h2⟩ := mgs_step (mgs vs) ih2 v (by rw [ih3]; exact hv)
    exact ⟨h1, by rw [h2, ih3, lspan_snoc]⟩

theorem OrthoList.inner_getElem {l : List E} (h : OrthoList l) (i j : ℕ) (hi : i < l.length) (hj : j < l.length) :
    inner ℝ l[i] l[j] = if i = j then 1 else 0 := by
  have hpw := List.pairwise_iff_getElem.mp h.1
  rcases lt_trichotomy i j with hlt | rfl | hgt
  · rw [if_neg hlt.ne, hpw i j hi hj hlt]
  · rw [if_pos rfl, real_inner_self_eq_norm_sq, h.2 _ (List.getElem_mem hi), one_pow]
  · rw [if_neg hgt.ne', real_inner_comm, hpw j i hj hi hgt]

theorem OrthoList.orthonormal {l : List E} (h : OrthoList l) :
    Orthonormal ℝ (fun i : Fin l.length => l.get i) :=
  orthonormal_iff_ite.mpr fun i j => by
    simp only [List.get_eq_getElem, h.inner_getElem i j i.2 j.2, Fin.ext_iff]

theorem mgs_orthoList (vs : List E) (hli : LinearIndependent ℝ (fun i : Fin vs.length => vs.get i)) :
    OrthoList (mgs vs) :=
  (mgs_invariant vs hli).1

/-- **C20, Gram–Schmidt clause.** On a linearly independent list the two loops return a list of the
same length which is orthonormal and spans the same subspace. -/
theorem C20_gramSchmidt_orthonormal (vs : List E)
    (hli : LinearIndependent ℝ (fun i : Fin vs.length => vs.get i)) :
    (mgs vs).length = vs.length ∧
      Orthonormal ℝ (fun i : Fin (mgs vs).length => (mgs vs).get i) ∧
      Submodule.span ℝ {x | x ∈ mgs vs} = Submodule.span ℝ {x | x ∈ vs} :=
  have h := mgs_invariant vs hli
  ⟨length_mgs vs, h.1.orthonormal, h.2⟩

theorem C20_gramSchmidt_pairwise (vs : List E)
    (hli : LinearIndependent ℝ (fun i : Fin vs.length => vs.get i))
    (i j : ℕ) (hi : i < (mgs vs).length) (hj : j < (mgs vs).length) :
    inner ℝ (mgs vs)[i] (mgs vs)[j] = if i = j then 1 else 0 :=
  (mgs_orthoList vs hli).inner_getElem i j hi hj

/-- the first output is the normalised first input (the `B[:,0] = alignVec/‖alignVec‖` line) -/
theorem C20_gramSchmidt_first (v : E) (rest : List E) :
    (mgs (v :: rest)).head? = some ((‖v‖)⁻¹ • v) := by
  induction rest using List.reverseRecOn with
  | nil => rfl
  | append_singleton rest w ih =>
    rw [← List.cons_append, mgs_snoc, List.head?_append, ih]
    rfl

end GramSchmidt

/-- **C20, Jacobian clause.** `J = B A⁻¹` (what `solve(Aᵀ, Bᵀ)ᵀ` returns) satisfies `J A = B`. -/
theorem C20_J {n : ℕ} (A B : Matrix (Fin n) (Fin n) ℝ) (hA : IsUnit A.det) :
    (B * A⁻¹) * A = B := by
  rw [Matrix.mul_assoc, Matrix.nonsing_inv_mul A hA, Matrix.mul_one]

end FF
