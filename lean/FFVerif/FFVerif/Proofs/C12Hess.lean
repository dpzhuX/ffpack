/-
C12 — the finite-difference Hessian inside the curvature extraction, for quadratic limit states.

`mainCurvaturesAtDesignPoint` obtains the X-space Hessian of the limit state from `hessianMatrix` (the nested stencil).  The executable
model of the pipeline (`Model/SormPipe.lean: curvatureBlock`) takes that Hessian as an argument; the executable model of `hessianMatrix`
is `Model/Deriv.lean: hessD`.  For a quadratic limit state `g( y ) = c0 + b·y + yᵀ Q y` the two combine exactly, at the reals:
the whole result of the pipeline fed with the finite-difference Hessian of the model — any regenerated first-derivative table, any
non-zero step — is the result with the analytic Hessian `Q + Qᵀ` (`C12h_block_fd_quadratic`).  So on quadratic limit states the
"finite-difference numerics" of C12 are exact up to rounding, and the curvature theorems of `C12Pipe` / `C12Rows` (stated for a given
Hessian) apply to what the code computes.
-/
import FFVerif.Proofs.C20Hess
import FFVerif.Proofs.C12Pipe
namespace FF.SormPipe
open FF.Linalg FF.Nataf FF.Deriv Finset

/-- **quadratic limit state**: the pipeline on the finite-difference Hessian of the model is the pipeline on `Q + Qᵀ` -/
theorem C12h_block_fd_quadratic (T : Model ℝ) (x a : Vec ℝ) (t : Nat × Nat × List Int × Int) (ht : t ∈ Gen.diffTables)
    (ht1 : t.1 = 1) (hm : 3 ≤ t.2.1) (c0 : ℝ) (b : Nat → ℝ) (Q : Nat → Nat → ℝ) (dx : ℝ) (hdx : dx ≠ 0) :
    curvatureBlock T x a (fun i j => hessD t (quad T.dim c0 b Q) i j x dx) =
      curvatureBlock T x a (fun i j => Q i j + Q j i) := by
  rw [curvatureBlock_real, curvatureBlock_real,
    hessU_congr T x a _ _ (fun k hk l hl => C20h_hess_quadratic t ht ht1 hm T.dim c0 b Q k l hk hl x dx hdx)]

/-- likewise the gradient handed to the pipeline when `dg = None`: the stencil returns the exact gradient of the quadratic -/
theorem C12h_grad_fd_quadratic (n : Nat) (t : Nat × Nat × List Int × Int) (ht : t ∈ Gen.diffTables)
    (ht1 : t.1 = 1) (hm : 3 ≤ t.2.1) (c0 : ℝ) (b : Nat → ℝ) (Q : Nat → Nat → ℝ) (i : Nat) (hi : i < n) (x : Nat → ℝ) (dx : ℝ) (hdx : dx ≠ 0) :
    partialD t (quad n c0 b Q) i x dx = b i + ∑ k ∈ range n, (Q k i + Q i k) * x k := by
  rw [C20h_grad_quadratic t ht ht1 hm n c0 b Q i x dx hdx, quadGrad_closed n b Q i hi x]

end FF.SormPipe
