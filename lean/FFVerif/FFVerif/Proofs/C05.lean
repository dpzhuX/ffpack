/-
C05 — property theorems: level-crossing and peak counts equal the true crossings and extrema.
`levelCrossingSeq`, `peakSeq`, `itable`, `defaultLevels` are the code-shaped models (tied to the
Python by exact correspondence); `up`, `down`, `extremaSpec`, `eventsSpec` are the specification.
-/
import FFVerif.Lemmas.Level
import FFVerif.Lemmas.PeakSpec
namespace FF
open C05

/-- at every requested level that no reversal touches, the reported count is the number of upward
crossings (level at or above the reference) resp. downward crossings (below it) -/
theorem C05_level_count (h : List Int) (ref : Int) (levels : List Int) (l : Int)
    (hl : l ∈ sortLevels levels) (hu : l ∉ reversals h) :
    lookup (itable (levelCrossingSeq h ref levels)) l =
      if ref ≤ l then up (reversals h) l else down (reversals h) l := by
  have hp : (fun x => !(reversals h).contains x) l = true := by simpa using hu
  rw [lookup_itable, levelCrossingSeq, pv_true_eq_reversals,
    ← List.count_filter (p := fun x => !(reversals h).contains x) hp, lcGo_filter ref _ _ true _ (fun _ hx => hx),
    eventsSpec_count ref _ ((sortLevels_nodup levels).sublist List.filter_sublist) l
      (List.mem_filter.mpr ⟨hl, hp⟩)]

theorem C05_count (h : List Int) (ref : Int) (levels : List Int) :
    countOK h ref levels (itable (levelCrossingSeq h ref levels)) = true := by
  simp only [countOK, List.all_eq_true, Bool.or_eq_true, List.contains_iff_mem, beq_iff_eq]
  intro l hl
  by_cases hu : l ∈ reversals h
  · exact Or.inl hu
  · exact Or.inr (C05_level_count h ref levels l hl hu)

/-- only requested levels are ever reported -/
theorem C05_keys (h : List Int) (ref : Int) (levels : List Int) :
    keysOK levels (itable (levelCrossingSeq h ref levels)) = true := by
  simp only [keysOK, List.all_eq_true, List.contains_iff_mem]
  exact fun p hp => mem_lcGo ref _ true _ p.1 (itable_keys _ p hp)

theorem C05_shape (evs : List Int) : tableShapeOK (itable evs) = true := by
  simp only [tableShapeOK, Bool.and_eq_true, List.all_eq_true, decide_eq_true_eq]
  exact ⟨(ikeysAscending_iff _).mpr (itable_sorted evs), itable_eq evs ▸ accAll_pos (List.forall_mem_map.mpr fun _ _ => Nat.one_pos) fun _ h => nomatch h⟩

theorem C05_hist (evs : List Int) : histOK evs (itable evs) = true := by simp [histOK]

/-- the un-aggregated output lists the crossings of untouched levels segment by segment in time
order, ascending inside a segment -/
theorem C05_segorder (h : List Int) (ref : Int) (levels : List Int) :
    seqOK false h ref levels (levelCrossingSeq h ref levels) = true := by
  simp only [seqOK, beq_iff_eq]
  unfold levelCrossingSeq
  rw [pv_true_eq_reversals]
  exact lcGo_filter ref _ _ true _ (fun x hx => hx)

/-- peak counting lists exactly the local maxima at or above the reference and the local minima
below it, in time order; its table is their histogram -/
theorem C05_peak (h : List Int) (ref : Int) :
    C05.failingPeak h ref (peakSeq h ref) (itable (peakSeq h ref)) = [] := by
  simp [C05.failingPeak, C05_shape, C05_hist, peakSeqOK, peakSeq_eq_extrema]

/-- all level-crossing clauses except strict time order inside a falling segment (recorded finding) -/
theorem C05_level (h : List Int) (ref : Int) (levels : List Int) :
    C05.failingLevel h ref levels (levelCrossingSeq h ref levels) (itable (levelCrossingSeq h ref levels))
      ⊆ ["timeorder"] := by
  simp [C05.failingLevel, C05_shape, C05_hist, C05_count, C05_keys, C05_segorder]
  split <;> simp

-- the time-order clause is false of the code as it stands: the model reproduces the recorded finding
example : seqOK true [4, -12] 0 [-6, -5, -4, -3, -1] (levelCrossingSeq [4, -12] 0 [-6, -5, -4, -3, -1]) = false := by
  decide
-- non-vacuity: an untouched, requested level with a real crossing
example : (2 : Int) ∈ sortLevels [1, 2] ∧ (2 : Int) ∉ reversals [0, 3, 0, 3] ∧
    lookup (itable (levelCrossingSeq [0, 3, 0, 3] 1 [1, 2])) 2 = 2 := by decide

end FF
