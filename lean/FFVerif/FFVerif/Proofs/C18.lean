/-
C18 — property theorems about the translated wave and wind spectra (`FF.Gen.*`, regenerated from
src/ffpack/lsm/waveSpectra.py and windSpectra.py on every run), at the reals.
-/
import Mathlib.Tactic.Positivity
import Mathlib.Tactic.Ring
import Mathlib.Tactic.NormNum
import Mathlib.Tactic.LinearCombination
import Mathlib.Analysis.SpecialFunctions.Log.Basic
import FFVerif.Lemmas.RealScalar
import FFVerif.Gen.Wave
import FFVerif.Gen.Wind
namespace FF
open Gen

theorem issc_closed (w wp Hs : ℝ) :
    isscSpectrum w wp Hs = 5 / 16 * Hs * Hs * (wp / w) ^ 4 / w * Real.exp (-(5 / 4) * (wp / w) ^ 4) := by
  unfold isscSpectrum
  simp only [exp_real, eqb_exp_lit_zero, cond_false]
  simp only [real_scalar, show (125 : ℝ) / 100 = 5 / 4 by norm_num]

theorem pm_closed (w Uw al be g : ℝ) :
    piersonMoskowitzSpectrum w Uw al be g = al * g * g / w ^ 5 * Real.exp (-be * (g / Uw / w) ^ 4) := by
  unfold piersonMoskowitzSpectrum; simp only [npow_real, exp_real, eqb_exp_lit_zero, cond_false]

theorem gaussian_closed (w wp Hs sg : ℝ) :
    gaussianSwellSpectrum w wp Hs sg =
      Hs * Hs / (16 * sg * (2 * Real.pi) ^ (3 / 2 : ℝ)) * Real.exp (-(((w - wp) / (2 * Real.pi * sg)) ^ 2 / 2)) := by
  unfold gaussianSwellSpectrum
  simp only [real_scalar, show (15 : ℝ) / 10 = 3 / 2 by norm_num]

/-- the JONSWAP peak-enhancement exponent -/
noncomputable def jonswapR (w wp : ℝ) : ℝ :=
  Real.exp (-(w - wp) * (w - wp) / (2 * wp * wp * (if w > wp then 9 / 100 else 7 / 100) * (if w > wp then 9 / 100 else 7 / 100)))

theorem jonswap_closed (w wp al be gm g : ℝ) :
    jonswapSpectrum w wp al be gm g =
      al * g * g / w ^ 5 * Real.exp (-be * (wp / w) ^ 4) * gm ^ (jonswapR w wp) := by
  unfold jonswapSpectrum jonswapR
  simp only [exp_real, eqb_exp_lit_zero, cond_false]
  simp only [real_scalar]

/-- the local function `oneTerm` of `ochiHubbleSpectrum` -/
noncomputable def ochiTerm (w wp Hs l : ℝ) : ℝ :=
  ((4 * l + 1) / 4 * wp ^ 4) ^ l / Real.Gamma l * Hs * Hs / w ^ ((4 * l + 1) / 4 * 4) *
    Real.exp (-((4 * l + 1) / 4) * (wp / w) ^ 4)

theorem ochiHubble_closed (w wp1 wp2 Hs1 Hs2 l1 l2 : ℝ) :
    ochiHubbleSpectrum w wp1 wp2 Hs1 Hs2 l1 l2 = (ochiTerm w wp1 Hs1 l1 + ochiTerm w wp2 Hs2 l2) / 4 := by
  unfold ochiHubbleSpectrum ochiTerm
  simp only [exp_real, eqb_exp_lit_zero, cond_false]
  simp only [real_scalar]

noncomputable def bretschneider (A B w : ℝ) : ℝ := A / w ^ 5 * Real.exp (-(B / w ^ 4))

/-- the three wave spectra have `B = β p⁴` with a reference frequency `p` -/
theorem bretschneider_mul_pow (A β p w : ℝ) :
    bretschneider A (β * p ^ 4) w = A / w ^ 5 * Real.exp (-β * (p / w) ^ 4) := by
  rw [bretschneider, mul_div_assoc, ← div_pow, ← neg_mul]

theorem issc_eq_bretschneider (w wp Hs : ℝ) :
    isscSpectrum w wp Hs = bretschneider (5 / 16 * Hs ^ 2 * wp ^ 4) (5 / 4 * wp ^ 4) w := by
  rw [issc_closed, bretschneider_mul_pow]; ring

theorem pm_eq_bretschneider (w Uw al be g : ℝ) :
    piersonMoskowitzSpectrum w Uw al be g = bretschneider (al * g ^ 2) (be * (g / Uw) ^ 4) w := by
  rw [pm_closed, bretschneider_mul_pow, pow_two, mul_assoc al]

theorem jonswap_eq_bretschneider (w wp al be gm g : ℝ) :
    jonswapSpectrum w wp al be gm g = bretschneider (al * g ^ 2) (be * wp ^ 4) w * gm ^ jonswapR w wp := by
  rw [jonswap_closed, bretschneider_mul_pow, pow_two, mul_assoc al]

/-- EN 1991-1-4 has a = 6.8, b = 10.2, IEC 61400-1 a = 4, b = 6 -/
noncomputable def kaimal (a b x : ℝ) : ℝ := a * x / (1 + b * x) ^ (5 / 3 : ℝ)

noncomputable def davenport (x : ℝ) : ℝ := 4 * x * x / (1 + x * x) ^ (4 / 3 : ℝ)

theorem davenportDragNorm_eq (n d k : ℝ) : davenportDragNorm n d k = davenport (120 * n) := by
  unfold davenportDragNorm davenport
  simp only [real_scalar]

theorem davenportDragDim_eq (n d k : ℝ) :
    davenportDragDim n d k = davenport (n * 1200 / d) * k * d * d / n := by
  unfold davenportDragDim davenport
  simp only [real_scalar, mul_comm (1200 : ℝ) n]

theorem davenportRoughNorm_eq (n uz z z0 : ℝ) : davenportRoughNorm n uz z z0 = davenport (1200 / z * n) := by
  unfold davenportRoughNorm davenport
  simp only [real_scalar]

theorem davenportRoughDim_eq (n uz z z0 : ℝ) :
    davenportRoughDim n uz z z0 =
      davenport (n * 1200 / uz) * (4 / 10 * uz / Real.log (z / z0)) * (4 / 10 * uz / Real.log (z / z0)) / n := by
  unfold davenportRoughDim davenport
  simp only [real_scalar, mul_comm (1200 : ℝ) n]

/-- EN 1991-1-4 turbulence length scale L(z) for the five terrain categories (z0, zmin) -/
noncomputable def ec1Lz (z0 zmin z : ℝ) : ℝ := 300 * (max z zmin / 200) ^ (67 / 100 + 5 / 100 * Real.log z0)

theorem ec1Norm_eq (n uz s z : ℝ) : ec1Norm n uz s z = kaimal (68 / 10) (102 / 10) n := by
  unfold ec1Norm kaimal
  simp only [real_scalar]

theorem ec1Dim0_eq (n uz s z : ℝ) :
    ec1Dim0 n uz s z = kaimal (68 / 10) (102 / 10) (n * ec1Lz (3 / 1000) 1 z / uz) * s * s / n := by
  unfold ec1Dim0 kaimal ec1Lz
  simp only [real_scalar]

theorem ec1Dim1_eq (n uz s z : ℝ) :
    ec1Dim1 n uz s z = kaimal (68 / 10) (102 / 10) (n * ec1Lz (1 / 100) 1 z / uz) * s * s / n := by
  unfold ec1Dim1 kaimal ec1Lz
  simp only [real_scalar]

theorem ec1Dim2_eq (n uz s z : ℝ) :
    ec1Dim2 n uz s z = kaimal (68 / 10) (102 / 10) (n * ec1Lz (5 / 100) 2 z / uz) * s * s / n := by
  unfold ec1Dim2 kaimal ec1Lz
  simp only [real_scalar]

theorem ec1Dim3_eq (n uz s z : ℝ) :
    ec1Dim3 n uz s z = kaimal (68 / 10) (102 / 10) (n * ec1Lz (3 / 10) 5 z / uz) * s * s / n := by
  unfold ec1Dim3 kaimal ec1Lz
  simp only [real_scalar]

theorem ec1Dim4_eq (n uz s z : ℝ) :
    ec1Dim4 n uz s z = kaimal (68 / 10) (102 / 10) (n * ec1Lz 1 10 z / uz) * s * s / n := by
  unfold ec1Dim4 kaimal ec1Lz
  simp only [real_scalar]

/-- IEC 61400-1 longitudinal scale parameter Λ1 -/
noncomputable def iecLambda (z : ℝ) : ℝ := if 60 ≤ z then 42 else 7 / 10 * z

theorem iecNorm_eq (f v s z : ℝ) : iecNorm f v s z = kaimal 4 6 f := by
  unfold iecNorm kaimal
  simp only [real_scalar]

theorem iecDim1_eq (f v s z : ℝ) :
    iecDim1 f v s z = kaimal 4 6 (f * (81 / 10 * iecLambda z) / v) * (1 * s) * (1 * s) / f := by
  unfold iecDim1 kaimal iecLambda
  simp only [real_scalar]

theorem iecDim2_eq (f v s z : ℝ) :
    iecDim2 f v s z = kaimal 4 6 (f * (27 / 10 * iecLambda z) / v) * (8 / 10 * s) * (8 / 10 * s) / f := by
  unfold iecDim2 kaimal iecLambda
  simp only [real_scalar]

theorem iecDim3_eq (f v s z : ℝ) :
    iecDim3 f v s z = kaimal 4 6 (f * (66 / 100 * iecLambda z) / v) * (5 / 10 * s) * (5 / 10 * s) / f := by
  unfold iecDim3 kaimal iecLambda
  simp only [real_scalar]

theorem sq_form_nonneg (a s : ℝ) (ha : 0 ≤ a) : 0 ≤ a * s * s := by
  rw [mul_assoc]; exact mul_nonneg ha (mul_self_nonneg s)

theorem bretschneider_nonneg {A B w : ℝ} (hA : 0 ≤ A) (hw : 0 ≤ w) : 0 ≤ bretschneider A B w :=
  mul_nonneg (div_nonneg hA (pow_nonneg hw 5)) (Real.exp_pos _).le

theorem C18_nonneg_issc (w wp Hs : ℝ) (hw : 0 < w) (hwp : 0 < wp) : 0 ≤ isscSpectrum w wp Hs := by
  rw [issc_eq_bretschneider]; exact bretschneider_nonneg (by positivity) hw.le

theorem C18_nonneg_pm (w Uw al be g : ℝ) (hw : 0 < w) (hal : 0 ≤ al) : 0 ≤ piersonMoskowitzSpectrum w Uw al be g := by
  rw [pm_eq_bretschneider]; exact bretschneider_nonneg (mul_nonneg hal (sq_nonneg g)) hw.le

theorem C18_nonneg_gaussian (w wp Hs sg : ℝ) (hsg : 0 < sg) : 0 ≤ gaussianSwellSpectrum w wp Hs sg := by
  rw [gaussian_closed]
  have := mul_self_nonneg Hs
  positivity

theorem C18_nonneg_jonswap (w wp al be gm g : ℝ) (hw : 0 < w) (hal : 0 ≤ al) (hgm : 0 < gm) :
    0 ≤ jonswapSpectrum w wp al be gm g := by
  rw [jonswap_eq_bretschneider]
  exact mul_nonneg (bretschneider_nonneg (mul_nonneg hal (sq_nonneg g)) hw.le) (Real.rpow_pos_of_pos hgm _).le

theorem ochiTerm_nonneg {w l : ℝ} (wp Hs : ℝ) (hw : 0 ≤ w) (hl : 0 < l) : 0 ≤ ochiTerm w wp Hs l :=
  mul_nonneg (div_nonneg (sq_form_nonneg _ _ (div_nonneg (Real.rpow_nonneg (by positivity) _)
    (Real.Gamma_pos_of_pos hl).le)) (Real.rpow_nonneg hw _)) (Real.exp_pos _).le

theorem C18_nonneg_ochiHubble (w wp1 wp2 Hs1 Hs2 l1 l2 : ℝ) (hw : 0 < w) (h1 : 0 < wp1) (h2 : 0 < wp2)
    (hl1 : 0 < l1) (hl2 : 0 < l2) : 0 ≤ ochiHubbleSpectrum w wp1 wp2 Hs1 Hs2 l1 l2 := by
  rw [ochiHubble_closed]
  exact div_nonneg (add_nonneg (ochiTerm_nonneg wp1 Hs1 hw.le hl1) (ochiTerm_nonneg wp2 Hs2 hw.le hl2)) (by norm_num)

theorem davenport_nonneg (x : ℝ) : 0 ≤ davenport x :=
  div_nonneg (sq_form_nonneg 4 x (by norm_num))
    (Real.rpow_nonneg (add_nonneg zero_le_one (mul_self_nonneg x)) _)

theorem kaimal_nonneg {a b x : ℝ} (ha : 0 ≤ a) (hb : 0 ≤ b) (hx : 0 ≤ x) : 0 ≤ kaimal a b x :=
  div_nonneg (mul_nonneg ha hx) (Real.rpow_nonneg (add_nonneg zero_le_one (mul_nonneg hb hx)) _)

theorem dim_nonneg {r s f : ℝ} (hr : 0 ≤ r) (hf : 0 ≤ f) : 0 ≤ r * s * s / f :=
  div_nonneg (sq_form_nonneg r s hr) hf

theorem ec1Lz_pos (z0 zmin : ℝ) {z : ℝ} (hz : 0 < z) : 0 < ec1Lz z0 zmin z := by
  unfold ec1Lz; positivity

theorem iecLambda_pos (z : ℝ) (hz : 0 < z) : 0 < iecLambda z := by
  unfold iecLambda; split_ifs <;> positivity

theorem C18_nonneg_davenport (n d k u z z0 : ℝ) (hn : 0 < n) (hd : 0 < d) (hk : 0 ≤ k) (hu : 0 < u) (hz : 0 < z) :
    0 ≤ davenportDragNorm n d k ∧ 0 ≤ davenportDragDim n d k ∧
    0 ≤ davenportRoughNorm n u z z0 ∧ 0 ≤ davenportRoughDim n u z z0 := by
  rw [davenportDragNorm_eq, davenportDragDim_eq, davenportRoughNorm_eq, davenportRoughDim_eq]
  exact ⟨davenport_nonneg _, dim_nonneg (mul_nonneg (davenport_nonneg _) hk) hn.le,
    davenport_nonneg _, dim_nonneg (davenport_nonneg _) hn.le⟩

theorem C18_nonneg_ec1 (n uz s z : ℝ) (hn : 0 < n) (hu : 0 < uz) (hz : 0 < z) :
    0 ≤ ec1Norm n uz s z ∧ 0 ≤ ec1Dim0 n uz s z ∧ 0 ≤ ec1Dim1 n uz s z ∧ 0 ≤ ec1Dim2 n uz s z ∧
    0 ≤ ec1Dim3 n uz s z ∧ 0 ≤ ec1Dim4 n uz s z := by
  have hk : ∀ {x : ℝ}, 0 ≤ x → 0 ≤ kaimal (68 / 10) (102 / 10) x :=
    kaimal_nonneg (by norm_num) (by norm_num)
  have h : ∀ z0 zmin : ℝ, 0 ≤ kaimal (68 / 10) (102 / 10) (n * ec1Lz z0 zmin z / uz) * s * s / n :=
    fun z0 zmin => dim_nonneg (hk (div_nonneg (mul_nonneg hn.le (ec1Lz_pos z0 zmin hz).le) hu.le)) hn.le
  rw [ec1Norm_eq, ec1Dim0_eq, ec1Dim1_eq, ec1Dim2_eq, ec1Dim3_eq, ec1Dim4_eq]
  exact ⟨hk hn.le, h _ _, h _ _, h _ _, h _ _, h _ _⟩

theorem C18_nonneg_iec (f v s z : ℝ) (hf : 0 < f) (hv : 0 < v) (hz : 0 < z) :
    0 ≤ iecNorm f v s z ∧ 0 ≤ iecDim1 f v s z ∧ 0 ≤ iecDim2 f v s z ∧ 0 ≤ iecDim3 f v s z := by
  have hl := iecLambda_pos z hz
  have hk : ∀ {x : ℝ}, 0 ≤ x → 0 ≤ kaimal 4 6 x := kaimal_nonneg (by norm_num) (by norm_num)
  rw [iecNorm_eq, iecDim1_eq, iecDim2_eq, iecDim3_eq]
  exact ⟨hk hf.le, dim_nonneg (hk (by positivity)) hf.le, dim_nonneg (hk (by positivity)) hf.le,
    dim_nonneg (hk (by positivity)) hf.le⟩

theorem C18_nonneg_api (f u0 z : ℝ) (hf : 0 < f) (hu : 0 < u0) (hz : 0 < z) : 0 ≤ apiSpectrum f u0 z := by
  unfold apiSpectrum; simp only [real_scalar]; positivity

theorem bretschneider_le_peak {A w wp : ℝ} (hA : 0 ≤ A) (hw : 0 < w) (hwp : 0 < wp) :
    bretschneider A (5 / 4 * wp ^ 4) w ≤ bretschneider A (5 / 4 * wp ^ 4) wp := by
  have ht : 0 < wp / w := div_pos hwp hw
  -- with `t = wp / w` the claim is `t⁵ exp (-5/4 t⁴) ≤ exp (-5/4)`, which is `log t⁴ ≤ t⁴ - 1`
  have key : (wp / w) ^ 5 * Real.exp (-(5 / 4) * (wp / w) ^ 4) ≤ Real.exp (-(5 / 4)) := by
    have h1 : Real.log ((wp / w) ^ 4) ≤ (wp / w) ^ 4 - 1 := Real.log_le_sub_one_of_pos (pow_pos ht 4)
    rw [Real.log_pow, Nat.cast_ofNat] at h1
    rw [← Real.exp_log (pow_pos ht 5), Real.log_pow, Nat.cast_ofNat, ← Real.exp_add, Real.exp_le_exp]
    linear_combination (5 / 4 : ℝ) * h1
  rw [bretschneider_mul_pow, bretschneider_mul_pow, div_self hwp.ne', one_pow, mul_one,
    ← div_mul_div_cancel₀ (pow_pos hwp 5).ne' (a := A), ← div_pow, mul_assoc]
  exact mul_le_mul_of_nonneg_left key (div_nonneg hA (pow_pos hwp 5).le)

theorem C18_issc_peak (w wp Hs : ℝ) (hw : 0 < w) (hwp : 0 < wp) :
    isscSpectrum w wp Hs ≤ isscSpectrum wp wp Hs := by
  rw [issc_eq_bretschneider, issc_eq_bretschneider]
  exact bretschneider_le_peak (by positivity) hw hwp

theorem C18_gaussian_peak (w wp Hs sg : ℝ) (hsg : 0 < sg) :
    gaussianSwellSpectrum w wp Hs sg ≤ gaussianSwellSpectrum wp wp Hs sg := by
  rw [gaussian_closed, gaussian_closed, sub_self, zero_div, zero_pow two_ne_zero, zero_div, neg_zero,
    Real.exp_zero, mul_one]
  exact mul_le_of_le_one_right (div_nonneg (mul_self_nonneg Hs) (by positivity))
    (Real.exp_le_one_iff.mpr (neg_nonpos.mpr (by positivity)))

theorem jonswapR_le_one (w wp : ℝ) : jonswapR w wp ≤ 1 := by
  unfold jonswapR
  rw [Real.exp_le_one_iff, neg_mul]
  exact div_nonpos_of_nonpos_of_nonneg (neg_nonpos.mpr (mul_self_nonneg _))
    (sq_form_nonneg _ _ (sq_form_nonneg 2 wp zero_le_two))

theorem jonswapR_pos (w wp : ℝ) : 0 < jonswapR w wp := Real.exp_pos _

theorem jonswapR_peak (wp : ℝ) : jonswapR wp wp = 1 := by
  rw [jonswapR, sub_self, mul_zero, zero_div, Real.exp_zero]

theorem C18_jonswap_factor (w wp al be gm g : ℝ) (hgm : 1 ≤ gm) :
    jonswapSpectrum w wp al be gm g = jonswapSpectrum w wp al be 1 g * gm ^ jonswapR w wp ∧
    1 ≤ gm ^ jonswapR w wp ∧ gm ^ jonswapR w wp ≤ gm ∧ gm ^ jonswapR wp wp = gm := by
  refine ⟨?_, ?_, ?_, ?_⟩
  · rw [jonswap_eq_bretschneider, jonswap_eq_bretschneider, Real.one_rpow, mul_one]
  · exact Real.one_le_rpow hgm (jonswapR_pos w wp).le
  · exact Real.rpow_le_self_of_one_le hgm (jonswapR_le_one w wp)
  · rw [jonswapR_peak, Real.rpow_one]

/-- β = 5/4 is the default shape factor of `jonswapSpectrum` -/
theorem C18_jonswap_peak (w wp al gm g : ℝ) (hw : 0 < w) (hwp : 0 < wp) (hal : 0 ≤ al) (hgm : 1 ≤ gm) :
    jonswapSpectrum w wp al (5 / 4) gm g ≤ jonswapSpectrum wp wp al (5 / 4) gm g := by
  have hA : 0 ≤ al * g ^ 2 := mul_nonneg hal (sq_nonneg g)
  rw [jonswap_eq_bretschneider, jonswap_eq_bretschneider, jonswapR_peak, Real.rpow_one]
  exact mul_le_mul (bretschneider_le_peak hA hw hwp) (Real.rpow_le_self_of_one_le hgm (jonswapR_le_one w wp))
    (Real.rpow_nonneg (zero_le_one.trans hgm) _) (bretschneider_nonneg hA hwp.le)

/-- normalised = f · S(f) / scale, with `x` the reduced spectrum at the reduced frequency and `x * K / n`
the dimensional form -/
theorem normalised_aux (x n K : ℝ) (hn : n ≠ 0) (hK : K ≠ 0) : x = n * (x * K / n) / K := by
  rw [mul_div_cancel₀ _ hn, mul_div_cancel_right₀ _ hK]

theorem ec1_normalised_aux (R : ℝ → ℝ) (n uz s L : ℝ) (hn : n ≠ 0) (hs : s ≠ 0) :
    R (n * L / uz) = n * (R (n * L / uz) * s * s / n) / (s * s) := by
  rw [mul_assoc]; exact normalised_aux _ n _ hn (mul_self_ne_zero.mpr hs)

theorem C18_davenport_drag_normalised (n d k : ℝ) (hn : n ≠ 0) (hd : d ≠ 0) (hk : k ≠ 0) :
    davenportDragNorm (10 * n / d) d k = n * davenportDragDim n d k / (k * d * d) := by
  rw [davenportDragNorm_eq, davenportDragDim_eq, show (120 : ℝ) * (10 * n / d) = n * 1200 / d by ring,
    mul_assoc (davenport _), mul_assoc (davenport _)]
  exact normalised_aux _ n _ hn (mul_ne_zero (mul_ne_zero hk hd) hd)

theorem C18_davenport_rough_normalised (n uz z z0 : ℝ) (hn : n ≠ 0) (hu : uz ≠ 0) (hz : z ≠ 0)
    (hl : Real.log (z / z0) ≠ 0) :
    davenportRoughNorm (n * z / uz) uz z z0 =
      n * davenportRoughDim n uz z z0 / ((4 / 10 * uz / Real.log (z / z0)) * (4 / 10 * uz / Real.log (z / z0))) := by
  rw [davenportRoughNorm_eq, davenportRoughDim_eq,
    show (1200 : ℝ) / z * (n * z / uz) = n * 1200 / uz by
      rw [div_mul_div_comm, ← mul_assoc, mul_comm z, mul_div_mul_right _ _ hz, mul_comm 1200]]
  exact ec1_normalised_aux davenport n uz _ 1200 hn (div_ne_zero (mul_ne_zero (by norm_num) hu) hl)

theorem C18_ec1_normalised (n uz s z : ℝ) (hn : n ≠ 0) (hs : s ≠ 0) :
    ec1Norm (n * ec1Lz (3 / 1000) 1 z / uz) uz s z = n * ec1Dim0 n uz s z / (s * s) ∧
    ec1Norm (n * ec1Lz (1 / 100) 1 z / uz) uz s z = n * ec1Dim1 n uz s z / (s * s) ∧
    ec1Norm (n * ec1Lz (5 / 100) 2 z / uz) uz s z = n * ec1Dim2 n uz s z / (s * s) ∧
    ec1Norm (n * ec1Lz (3 / 10) 5 z / uz) uz s z = n * ec1Dim3 n uz s z / (s * s) ∧
    ec1Norm (n * ec1Lz 1 10 z / uz) uz s z = n * ec1Dim4 n uz s z / (s * s) := by
  simp only [ec1Norm_eq, ec1Dim0_eq, ec1Dim1_eq, ec1Dim2_eq, ec1Dim3_eq, ec1Dim4_eq]
  have h := fun L => ec1_normalised_aux (kaimal (68 / 10) (102 / 10)) n uz s L hn hs
  exact ⟨h _, h _, h _, h _, h _⟩

theorem C18_iec_normalised (f v s z : ℝ) (hf : f ≠ 0) (hs : s ≠ 0) :
    iecNorm (f * (81 / 10 * iecLambda z) / v) v s z = f * iecDim1 f v s z / ((1 * s) * (1 * s)) ∧
    iecNorm (f * (27 / 10 * iecLambda z) / v) v s z = f * iecDim2 f v s z / ((8 / 10 * s) * (8 / 10 * s)) ∧
    iecNorm (f * (66 / 100 * iecLambda z) / v) v s z = f * iecDim3 f v s z / ((5 / 10 * s) * (5 / 10 * s)) := by
  simp only [iecNorm_eq, iecDim1_eq, iecDim2_eq, iecDim3_eq]
  have h := fun (c L : ℝ) (hc : c ≠ 0) =>
    ec1_normalised_aux (kaimal 4 6) f v (c * s) L hf (mul_ne_zero hc hs)
  exact ⟨h _ _ one_ne_zero, h _ _ (by norm_num), h _ _ (by norm_num)⟩

end FF
