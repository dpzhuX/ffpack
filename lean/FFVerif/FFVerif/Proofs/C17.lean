/-
C17 — spectral synthesis and estimation conserve energy.
`Spectral.ampAt`, `Spectral.synth`, `Spectral.pick` are the code-shaped generic-scalar models; here at ℝ.
-/
import Mathlib.Tactic.Ring
import Mathlib.Tactic.NormNum
import Mathlib.Algebra.BigOperators.Group.List.Basic
import Mathlib.Algebra.BigOperators.Intervals
import Mathlib.Algebra.Field.GeomSum
import Mathlib.Analysis.SpecialFunctions.Trigonometric.Basic
import Mathlib.Analysis.SpecialFunctions.Complex.Log
import Mathlib.Analysis.Complex.Trigonometric
import Mathlib.Analysis.Complex.Norm
import FFVerif.Lemmas.RealScalar
import FFVerif.Model.Spectral
namespace FF
open Finset

/-! ## the synthesiser is a finite sine series at the times `j / fs` -/

theorem spectral_zero : (Spectral.zero : ℝ) = 0 := by rw [Spectral.zero, lit_exp_zero, Nat.cast_zero]
theorem spectral_two : (Spectral.two : ℝ) = 2 := by rw [Spectral.two, lit_exp_zero, Nat.cast_ofNat]

theorem ampAt_eq_sum (comps : List (ℝ × ℝ × ℝ)) (bw t : ℝ) :
    Spectral.ampAt comps bw t =
      (comps.map (fun c => Real.sqrt (2 * c.2.1 * bw) * Real.sin (2 * Real.pi * c.1 * t + c.2.2))).sum := by
  rw [List.sum_eq_foldl, List.foldl_map]
  simp only [Spectral.ampAt, spectral_zero, spectral_two, real_scalar]

theorem C17_length (fs bw : ℝ) (next : ℕ) (comps : List (ℝ × ℝ × ℝ)) (js : List ℝ) :
    (Spectral.synth fs bw next comps js).length = js.length :=
  List.length_map _

theorem C17_entry (fs bw : ℝ) (next : ℕ) (comps : List (ℝ × ℝ × ℝ)) (js : List ℝ) (k : ℕ)
    (hk : k < js.length) :
    (Spectral.synth fs bw next comps js)[k]'(by rw [C17_length]; exact hk) =
      Spectral.ampAt (Spectral.pick next comps 0) bw (1 / fs * js[k]) := by
  -- the entry first: under `[k]` the index proof depends on the list being rewritten
  simp only [Spectral.synth, List.getElem_map]
  simp only [real_scalar]

theorem C17_entry_range (fs bw : ℝ) (next : ℕ) (comps : List (ℝ × ℝ × ℝ)) (n k : ℕ) (hk : k < n) :
    (Spectral.synth fs bw next comps ((List.range n).map (fun j : ℕ => (j : ℝ))))[k]'(by
        rw [C17_length]; simpa using hk) =
      Spectral.ampAt (Spectral.pick next comps 0) bw ((k : ℝ) / fs) := by
  rw [C17_entry, List.getElem_map, List.getElem_range, one_div, inv_mul_eq_div]
  rwa [List.length_map, List.length_range]

theorem C17_bound (comps : List (ℝ × ℝ × ℝ)) (bw t : ℝ) :
    |Spectral.ampAt comps bw t| ≤ (comps.map (fun c => Real.sqrt (2 * c.2.1 * bw))).sum := by
  rw [ampAt_eq_sum]
  induction comps with
  | nil => exact abs_zero.le
  | cons c l ih =>
    simp only [List.map_cons, List.sum_cons]
    refine (abs_add_le _ _).trans (add_le_add ?_ ih)
    rw [abs_mul, abs_of_nonneg (Real.sqrt_nonneg _)]
    exact mul_le_of_le_one_right (Real.sqrt_nonneg _) (Real.abs_sin_le_one _)

/-! ## sums of sampled sinusoids over a whole record -/

theorem cossum (n : ℕ) (hn : 0 < n) (p : ℤ) (θ : ℝ) :
    ∑ k ∈ range n, Real.cos (2 * Real.pi * p * k / n + θ) =
      if (n : ℤ) ∣ p then (n : ℝ) * Real.cos θ else 0 := by
  have hn0 : (n : ℂ) ≠ 0 := Nat.cast_ne_zero.mpr hn.ne'
  -- the terms are the real parts of `e^{iθ} ζ^k` with `ζ = exp (2πi p / n)`, and `ζ = 1` exactly when `n ∣ p`
  have h1 : ∀ k : ℕ, Real.cos (2 * Real.pi * p * k / n + θ) =
      (Complex.exp (θ * Complex.I) * Complex.exp (p / n * (2 * Real.pi * Complex.I)) ^ k).re := fun k => by
    rw [← Complex.exp_nat_mul, ← Complex.exp_add, ← Complex.exp_ofReal_mul_I_re]
    congr 2; push_cast; ring
  have hone : Complex.exp (p / n * (2 * Real.pi * Complex.I)) = 1 ↔ (n : ℤ) ∣ p := by
    rw [Complex.exp_eq_one_iff]
    refine exists_congr fun q => ?_
    rw [mul_left_inj' Complex.two_pi_I_ne_zero, div_eq_iff hn0, mul_comm, ← Int.cast_natCast, ← Int.cast_mul,
      Int.cast_inj]
  simp only [h1]
  rw [← Complex.re_sum, ← Finset.mul_sum]
  split_ifs with h
  · rw [hone.mpr h]
    simp only [one_pow, sum_const, card_range, nsmul_eq_mul, mul_one]
    rw [← Complex.ofReal_natCast, Complex.re_mul_ofReal, Complex.exp_ofReal_mul_I_re, mul_comm]
  · rw [geom_sum_eq (mt hone.mp h), ← Complex.exp_nat_mul, ← mul_assoc, mul_div_cancel₀ _ hn0,
      Complex.exp_int_mul_two_pi_mul_I, sub_self, zero_div, mul_zero, Complex.zero_re]

theorem dvd_sub_iff_lt {n a b : ℕ} (ha : a < n) (hb : b < n) :
    (n : ℤ) ∣ (a : ℤ) - (b : ℤ) ↔ a = b := by
  rw [← Int.modEq_iff_dvd, Int.natCast_modEq_iff]
  exact ⟨fun h => (h.eq_of_lt_of_lt hb ha).symm, fun h => h ▸ rfl⟩

/-- orthogonality of sampled sinusoids; `0 < a + b < n` keeps the sum frequency off the multiples of `n` -/
theorem sin_bin_orthogonal (n : ℕ) {a b : ℕ} (h0 : 0 < a + b) (hab : a + b < n) (α β : ℝ) :
    ∑ k ∈ range n, Real.sin (2 * Real.pi * a * k / n + α) * Real.sin (2 * Real.pi * b * k / n + β) =
      if a = b then (n : ℝ) * Real.cos (α - β) / 2 else 0 := by
  have hprod : ∀ x y : ℝ, Real.sin (x + α) * Real.sin (y + β) =
      (Real.cos (x - y + (α - β)) - Real.cos (x + y + (α + β))) / 2 := fun x y => by
    rw [← add_sub_add_comm x α, ← add_add_add_comm x α, Real.cos_sub, Real.cos_add (x + α)]; ring
  -- the difference frequency survives only when the bins coincide; the sum frequency lies strictly in `(0, n)`
  have hd := cossum n (h0.trans hab) ((a : ℤ) - b) (α - β)
  have hs := cossum n (h0.trans hab) ((a + b : ℕ) : ℤ) (α + β)
  rw [if_congr (dvd_sub_iff_lt ((Nat.le_add_right a b).trans_lt hab) ((Nat.le_add_left b a).trans_lt hab)) rfl rfl,
    Int.cast_sub, Int.cast_natCast, Int.cast_natCast] at hd
  rw [if_neg (mt Int.natCast_dvd_natCast.mp (Nat.not_dvd_of_pos_of_lt h0 hab)), Int.cast_natCast, Nat.cast_add] at hs
  simp only [hprod, ← sub_div, ← add_div, ← sub_mul, ← add_mul, ← mul_sub, ← mul_add]
  rw [← Finset.sum_div, Finset.sum_sub_distrib, hd, hs, sub_zero, apply_ite (· / 2), zero_div]

/-! ## energy of a sum of sinusoids in distinct bins -/

section energy
variable {ι : Type*} [Fintype ι]

/-- sample `k` of a sum of sinusoids with amplitudes `a i` and phases `φ i` in the bins `m i` of a record of `n` samples -/
noncomputable def binSeries (n : ℕ) (m : ι → ℕ) (a φ : ι → ℝ) (k : ℕ) : ℝ :=
  ∑ i, a i * Real.sin (2 * Real.pi * (m i) * k / n + φ i)

theorem bin_proj (n : ℕ) (m : ι → ℕ) (a φ : ι → ℝ)
    (hm0 : ∀ i, 0 < m i) (hmN : ∀ i, 2 * m i < n) (hinj : Function.Injective m) (j : ι) (β : ℝ) :
    ∑ k ∈ range n, binSeries n m a φ k * Real.sin (2 * Real.pi * (m j) * k / n + β) =
      n * a j * Real.cos (φ j - β) / 2 := by
  have hmm : ∀ i, m i + m j < n := fun i => Nat.lt_of_mul_lt_mul_left (a := 2) <| by
    rw [Nat.mul_add, Nat.two_mul n]; exact Nat.add_lt_add (hmN i) (hmN j)
  -- only the component in bin `m j` is not orthogonal to the test sinusoid
  simp only [binSeries, Finset.sum_mul, mul_assoc (a _)]
  rw [Finset.sum_comm, Finset.sum_eq_single j (fun i _ hij => ?_) (fun h => absurd (mem_univ j) h),
    ← Finset.mul_sum, sin_bin_orthogonal n (Nat.add_pos_left (hm0 j) _) (hmm j), if_pos rfl]
  · ring
  · rw [← Finset.mul_sum, sin_bin_orthogonal n (Nat.add_pos_left (hm0 i) _) (hmm i), if_neg (hinj.ne hij), mul_zero]

theorem C17_mean_square (n : ℕ) (hn : 0 < n) (m : ι → ℕ) (a φ : ι → ℝ)
    (hm0 : ∀ i, 0 < m i) (hmN : ∀ i, 2 * m i < n) (hinj : Function.Injective m) :
    (1 / (n : ℝ)) * ∑ k ∈ range n,
        (∑ i, a i * Real.sin (2 * Real.pi * (m i) * k / n + φ i)) ^ 2 =
      ∑ i, (a i) ^ 2 / 2 := by
  have hn0 : (n : ℝ) ≠ 0 := Nat.cast_ne_zero.mpr hn.ne'
  -- the square of the series is the sum of its projections on its own components
  have hsq : ∀ k : ℕ, (∑ i, a i * Real.sin (2 * Real.pi * (m i) * k / n + φ i)) ^ 2 =
      ∑ j, a j * (binSeries n m a φ k * Real.sin (2 * Real.pi * (m j) * k / n + φ j)) := by
    intro k
    rw [sq, binSeries, Finset.mul_sum]
    exact Finset.sum_congr rfl fun j _ => by ring
  simp only [hsq]
  rw [Finset.sum_comm, Finset.mul_sum]
  refine Finset.sum_congr rfl fun j _ => ?_
  rw [← Finset.mul_sum, bin_proj n m a φ hm0 hmN hinj, sub_self, Real.cos_zero, mul_one, mul_div_assoc,
    mul_left_comm (a j), ← mul_assoc, one_div_mul_cancel hn0, one_mul, ← mul_div_assoc, ← sq]

theorem amp_sq_half {S bw : ℝ} (hS : 0 ≤ S) (hbw : 0 ≤ bw) : Real.sqrt (2 * S * bw) ^ 2 / 2 = S * bw := by
  rw [Real.sq_sqrt (mul_nonneg (mul_nonneg zero_le_two hS) hbw), mul_assoc, mul_div_cancel_left₀ _ two_ne_zero]

theorem C17_mean_square_spectrum (n : ℕ) (hn : 0 < n) (m : ι → ℕ) (S φ : ι → ℝ) (bw : ℝ)
    (hS : ∀ i, 0 ≤ S i) (hbw : 0 ≤ bw)
    (hm0 : ∀ i, 0 < m i) (hmN : ∀ i, 2 * m i < n) (hinj : Function.Injective m) :
    (1 / (n : ℝ)) * ∑ k ∈ range n,
        (∑ i, Real.sqrt (2 * S i * bw) * Real.sin (2 * Real.pi * (m i) * k / n + φ i)) ^ 2 =
      ∑ i, S i * bw := by
  rw [C17_mean_square n hn m (fun i => Real.sqrt (2 * S i * bw)) φ hm0 hmN hinj]
  exact Finset.sum_congr rfl fun i _ => amp_sq_half (hS i) hbw

/-- components at the bin frequencies `m_i · fs / n` complete whole periods: at the time `k / fs` the synthesiser is `binSeries` -/
theorem ampAt_bins {fs : ℝ} (hfs : fs ≠ 0) (bw : ℝ) (n : ℕ) (l : List (ℕ × ℝ × ℝ)) (k : ℕ) :
    Spectral.ampAt (l.map fun c => ((c.1 : ℝ) * fs / n, c.2.1, c.2.2)) bw ((k : ℝ) / fs) =
      binSeries n (fun i => (l.get i).1) (fun i => Real.sqrt (2 * (l.get i).2.1 * bw)) (fun i => (l.get i).2.2) k := by
  have hph : ∀ m : ℝ, 2 * Real.pi * (m * fs / n) * (k / fs) = 2 * Real.pi * m * k / n := fun m => by
    rw [mul_assoc, div_mul_div_comm, mul_right_comm m, mul_div_mul_right _ _ hfs, ← mul_div_assoc, ← mul_assoc]
  rw [ampAt_eq_sum, List.map_map]
  simp only [Function.comp_def, hph]
  exact (Fin.sum_univ_fun_getElem l _).symm

/-- the mean-square clause on the model itself: components `(m_i, S_i, φ_i)` at the frequencies `m_i · fs / n` -/
theorem C17_mean_square_synth (fs bw : ℝ) (hfs : fs ≠ 0) (hbw : 0 ≤ bw) (n : ℕ) (hn : 0 < n)
    (l : List (ℕ × ℝ × ℝ)) (hS : ∀ c ∈ l, 0 ≤ c.2.1) (hm0 : ∀ c ∈ l, 0 < c.1)
    (hmN : ∀ c ∈ l, 2 * c.1 < n) (hnodup : (l.map Prod.fst).Nodup) :
    (1 / (n : ℝ)) * ∑ k ∈ range n,
      (Spectral.ampAt (l.map fun c => ((c.1 : ℝ) * fs / n, c.2.1, c.2.2)) bw ((k : ℝ) / fs)) ^ 2 =
      (l.map fun c => c.2.1 * bw).sum := by
  simp only [ampAt_bins hfs, binSeries]
  rw [C17_mean_square_spectrum n hn _ (fun i => (l.get i).2.1) _ bw (fun i => hS _ (l.get_mem i)) hbw
    (fun i => hm0 _ (l.get_mem i)) (fun i => hmN _ (l.get_mem i))
    fun i j hij => List.nodup_iff_injective_get.mp hnodup.of_map
      (List.inj_on_of_nodup_map hnodup (l.get_mem i) (l.get_mem j) hij)]
  exact Fin.sum_univ_fun_getElem l fun c => c.2.1 * bw

end energy

/-- non-vacuity: `n = 8`, one component in bin `1` -/
example (a φ : ℝ) :
    (1 / ((8 : ℕ) : ℝ)) * ∑ k ∈ range 8,
        (∑ _i : Unit, a * Real.sin (2 * Real.pi * ((1 : ℕ) : ℝ) * k / (8 : ℕ) + φ)) ^ 2 =
      ∑ _i : Unit, a ^ 2 / 2 :=
  C17_mean_square 8 (by norm_num) (fun _ : Unit => 1) (fun _ => a) (fun _ => φ)
    (fun _ => by norm_num) (fun _ => by norm_num) (fun _ _ _ => rfl)

/-! ## the periodogram at the component bins -/

noncomputable def dft (n : ℕ) (x : ℕ → ℝ) (p : ℕ) : ℂ :=
  ∑ k ∈ range n, (x k : ℂ) * Complex.exp (-2 * Real.pi * Complex.I * p * k / n)

/-- one-sided periodogram density at an interior bin (`0 < p`, `2 p < n`), sampling rate `fs` -/
noncomputable def pgram (fs : ℝ) (n : ℕ) (x : ℕ → ℝ) (p : ℕ) : ℝ :=
  2 * ‖dft n x p‖ ^ 2 / (fs * n)

/-- a density times the bin width: the sampling rate drops out -/
theorem density_mul_binwidth {fs : ℝ} (hfs : fs ≠ 0) (a W n : ℝ) : a / (fs * W) * (fs / n) = a / (W * n) := by
  rw [div_mul_div_comm, mul_comm a, mul_assoc, mul_div_mul_left _ _ hfs]

theorem dft_norm_sq (n : ℕ) (x : ℕ → ℝ) (p : ℕ) :
    ‖dft n x p‖ ^ 2 = (∑ k ∈ range n, x k * Real.cos (2 * Real.pi * p * k / n)) ^ 2 +
      (∑ k ∈ range n, x k * Real.sin (2 * Real.pi * p * k / n)) ^ 2 := by
  have e : ∀ k : ℕ, (-2 * Real.pi * Complex.I * p * k / n : ℂ) =
      ((-(2 * Real.pi * p * k / n) : ℝ) : ℂ) * Complex.I := fun k => by push_cast; ring
  -- Euler's formula in every term, then real and imaginary part collected
  simp only [dft, e, Complex.exp_mul_I, ← Complex.ofReal_cos, ← Complex.ofReal_sin, Real.cos_neg, Real.sin_neg,
    mul_add, ← mul_assoc, ← Complex.ofReal_mul, Finset.sum_add_distrib, ← Finset.sum_mul, ← Complex.ofReal_sum,
    mul_neg, Finset.sum_neg_distrib]
  rw [Complex.sq_norm, Complex.normSq_add_mul_I, neg_sq]

theorem norm_sq_dft_smul (n : ℕ) (y : ℕ → ℝ) (c : ℝ) (p : ℕ) :
    ‖dft n (fun k => c * y k) p‖ ^ 2 = c ^ 2 * ‖dft n y p‖ ^ 2 := by
  have h : dft n (fun k => c * y k) p = (c : ℂ) * dft n y p := by
    simp only [dft, Finset.mul_sum, Complex.ofReal_mul, mul_assoc]
  rw [h, norm_mul, mul_pow, Complex.norm_real, Real.norm_eq_abs, sq_abs]

section bins
variable {ι : Type*} [Fintype ι]

theorem C17_dft_bin (n : ℕ) (hn : 0 < n) (m : ι → ℕ) (a φ : ι → ℝ)
    (hm0 : ∀ i, 0 < m i) (hmN : ∀ i, 2 * m i < n) (hinj : Function.Injective m) (j : ι) :
    ‖dft n (binSeries n m a φ) (m j)‖ ^ 2 = (n * a j / 2) ^ 2 := by
  -- the projections of the series on the sine (`β = 0`) and the cosine (`β = π/2`) of bin `m j`
  have hs := bin_proj n m a φ hm0 hmN hinj j 0
  have hc := bin_proj n m a φ hm0 hmN hinj j (Real.pi / 2)
  simp only [add_zero, sub_zero] at hs
  simp only [Real.sin_add_pi_div_two, Real.cos_sub_pi_div_two] at hc
  rw [dft_norm_sq, hs, hc, mul_div_right_comm, mul_div_right_comm _ (Real.cos _), mul_pow, mul_pow, ← mul_add,
    Real.sin_sq_add_cos_sq, mul_one]

theorem C17_periodogram_bin (fs : ℝ) (hfs : 0 < fs) (n : ℕ) (hn : 0 < n) (m : ι → ℕ) (a φ : ι → ℝ)
    (hm0 : ∀ i, 0 < m i) (hmN : ∀ i, 2 * m i < n) (hinj : Function.Injective m) (j : ι) :
    pgram fs n (binSeries n m a φ) (m j) * (fs / n) = (a j) ^ 2 / 2 := by
  have hn0 : (n : ℝ) ≠ 0 := Nat.cast_ne_zero.mpr hn.ne'
  unfold pgram
  rw [C17_dft_bin n hn m a φ hm0 hmN hinj j, density_mul_binwidth hfs.ne',
    div_eq_div_iff (mul_self_ne_zero.mpr hn0) two_ne_zero]
  ring

/-- with the synthesiser's amplitudes: `P(m_j) · fs/n = S_j · bw`; in particular `P(m_j) = S_j`
when the bandwidth is the bin width -/
theorem C17_periodogram_bin_spectrum (fs : ℝ) (hfs : 0 < fs) (n : ℕ) (hn : 0 < n) (m : ι → ℕ)
    (S φ : ι → ℝ) (bw : ℝ) (hS : ∀ i, 0 ≤ S i) (hbw : 0 ≤ bw)
    (hm0 : ∀ i, 0 < m i) (hmN : ∀ i, 2 * m i < n) (hinj : Function.Injective m) (j : ι) :
    pgram fs n (binSeries n m (fun i => Real.sqrt (2 * S i * bw)) φ) (m j) * (fs / n) = S j * bw ∧
    (bw = fs / n → pgram fs n (binSeries n m (fun i => Real.sqrt (2 * S i * bw)) φ) (m j) = S j) := by
  have h := C17_periodogram_bin fs hfs n hn m (fun i => Real.sqrt (2 * S i * bw)) φ hm0 hmN hinj j
  rw [amp_sq_half (hS j) hbw] at h
  exact ⟨h, fun hb => mul_right_cancel₀ (div_pos hfs (Nat.cast_pos.mpr hn)).ne' (hb ▸ h)⟩

end bins

/-- non-vacuity: `n = 8`, two components in bins `1` and `3`, periodogram at bin `3` -/
example (fs : ℝ) (hfs : 0 < fs) (a φ : Fin 2 → ℝ) :
    pgram fs 8 (binSeries 8 (fun i : Fin 2 => 2 * i.1 + 1) a φ) 3 * (fs / (8 : ℕ)) = (a 1) ^ 2 / 2 :=
  C17_periodogram_bin fs hfs 8 (by norm_num) (fun i : Fin 2 => 2 * i.1 + 1) a φ
    (fun i => Nat.succ_pos _) (fun i => by omega)
    (fun i j h => Fin.ext (Nat.mul_left_cancel two_pos (Nat.succ_injective h))) 1

/-! ## Parseval for the mean-removed periodogram -/

theorem parseval (n : ℕ) (hn : 0 < n) (x : ℕ → ℝ) :
    ∑ p ∈ range n, ‖dft n x p‖ ^ 2 = n * ∑ k ∈ range n, (x k) ^ 2 := by
  -- `|X_p|² = Σ_k Σ_l x_k x_l cos (2π (k - l) p / n)`, written with the zero phase of `cossum`; summed over `p`
  -- only `k = l` survives
  have h1 : ∀ p : ℕ, ‖dft n x p‖ ^ 2 = ∑ k ∈ range n, ∑ l ∈ range n,
      x k * x l * Real.cos (2 * Real.pi * (((k : ℤ) - (l : ℤ) : ℤ) : ℝ) * p / n + 0) := by
    intro p
    rw [dft_norm_sq, sq, sq, Finset.sum_mul_sum, Finset.sum_mul_sum, ← Finset.sum_add_distrib]
    refine Finset.sum_congr rfl fun k _ => ?_
    rw [← Finset.sum_add_distrib]
    refine Finset.sum_congr rfl fun l _ => ?_
    rw [add_zero, Int.cast_sub, Int.cast_natCast, Int.cast_natCast, mul_right_comm _ ((k : ℝ) - l), mul_sub, sub_div,
      Real.cos_sub]
    ring
  simp only [h1]
  rw [Finset.sum_comm, Finset.mul_sum]
  refine Finset.sum_congr rfl fun k hk => ?_
  rw [Finset.sum_comm, Finset.sum_eq_single_of_mem k hk fun l hl hlk => ?_, ← Finset.mul_sum, cossum n hn,
    if_pos ⟨0, by rw [sub_self, mul_zero]⟩, Real.cos_zero]
  · ring
  · rw [← Finset.mul_sum, cossum n hn, if_neg (mt (dvd_sub_iff_lt (mem_range.mp hk) (mem_range.mp hl)).mp hlk.symm),
      mul_zero]

noncomputable def mean (n : ℕ) (x : ℕ → ℝ) : ℝ := (∑ k ∈ range n, x k) / n
noncomputable def demean (n : ℕ) (x : ℕ → ℝ) : ℕ → ℝ := fun k => x k - mean n x
noncomputable def variance (n : ℕ) (x : ℕ → ℝ) : ℝ := (1 / (n : ℝ)) * ∑ k ∈ range n, (x k - mean n x) ^ 2

/-- one-sided density of the mean-removed series on the bins `0 ≤ p ≤ n/2`: interior bins doubled,
DC and (for even `n`) Nyquist not -/
noncomputable def psd1 (fs : ℝ) (n : ℕ) (x : ℕ → ℝ) (p : ℕ) : ℝ :=
  (if p = 0 ∨ 2 * p = n then 1 else 2) * ‖dft n (demean n x) p‖ ^ 2 / (fs * n)

/-- area of the one-sided density over the frequency grid `p · fs / n`, `0 ≤ p ≤ n/2` -/
noncomputable def psdArea (fs : ℝ) (n : ℕ) (x : ℕ → ℝ) : ℝ :=
  ∑ p ∈ range (n / 2 + 1), psd1 fs n x p * (fs / n)

theorem psd1_interior (fs : ℝ) (n : ℕ) (x : ℕ → ℝ) (p : ℕ) (hp : 0 < p) (hpn : 2 * p < n) :
    psd1 fs n x p = pgram fs n (demean n x) p := by
  unfold psd1 pgram
  rw [if_neg (not_or.mpr ⟨hp.ne', hpn.ne⟩)]

theorem C17_parseval (n : ℕ) (hn : 2 ≤ n) (x : ℕ → ℝ) :
    ∑ p ∈ range n, ‖dft n (demean n x) p‖ ^ 2 = n * ∑ k ∈ range n, (x k - mean n x) ^ 2 :=
  parseval n (zero_lt_two.trans_le hn) (demean n x)

theorem demean_smul (n : ℕ) (x : ℕ → ℝ) (c : ℝ) : demean n (fun k => c * x k) = fun k => c * demean n x k := by
  funext k; simp only [demean, mean, ← Finset.mul_sum, mul_div_assoc, mul_sub]

theorem sum_demean (n : ℕ) (hn : 0 < n) (x : ℕ → ℝ) : ∑ k ∈ range n, demean n x k = 0 := by
  have hn0 : (n : ℝ) ≠ 0 := Nat.cast_ne_zero.mpr hn.ne'
  simp only [demean, mean, Finset.sum_sub_distrib, Finset.sum_const, card_range, nsmul_eq_mul]
  rw [mul_div_cancel₀ _ hn0, sub_self]

theorem C17_dc_zero (n : ℕ) (hn : 0 < n) (x : ℕ → ℝ) : dft n (demean n x) 0 = 0 := by
  simp only [dft, Nat.cast_zero, mul_zero, zero_mul, zero_div, Complex.exp_zero, mul_one]
  rw [← Complex.ofReal_sum, sum_demean n hn, Complex.ofReal_zero]

/-- conjugate symmetry of the DFT of a real series -/
theorem dft_reflect (n : ℕ) (x : ℕ → ℝ) (p : ℕ) (hp : p ≤ n) (hn : 0 < n) :
    ‖dft n x (n - p)‖ ^ 2 = ‖dft n x p‖ ^ 2 := by
  have hn0 : (n : ℝ) ≠ 0 := Nat.cast_ne_zero.mpr hn.ne'
  have harg : ∀ k : ℕ, 2 * Real.pi * ((n - p : ℕ) : ℝ) * k / n =
      (k : ℝ) * (2 * Real.pi) - 2 * Real.pi * p * k / n := fun k => by
    rw [Nat.cast_sub hp, mul_sub, sub_mul, sub_div, mul_right_comm _ (n : ℝ), mul_div_assoc, div_self hn0, mul_one,
      mul_comm (2 * Real.pi) k]
  rw [dft_norm_sq, dft_norm_sq]
  simp only [harg, Real.cos_nat_mul_two_pi_sub, Real.sin_nat_mul_two_pi_sub, mul_neg,
    Finset.sum_neg_distrib, neg_sq]

/-- a sum over all bins of a record, symmetric under `p ↦ n - p`, folded onto the bins `0 ≤ p ≤ n/2` -/
theorem fold_sum (n : ℕ) (hn : 0 < n) (f : ℕ → ℝ) (hsymm : ∀ p, 0 < p → p < n → f (n - p) = f p) :
    ∑ p ∈ range (n / 2 + 1), (if p = 0 ∨ 2 * p = n then 1 else 2) * f p = ∑ p ∈ range n, f p := by
  have hset : range (n / 2 + 1) = (range n).filter (fun p => 2 * p ≤ n) := by
    ext p
    rw [mem_range, mem_filter, mem_range, Nat.lt_succ_iff, Nat.le_div_iff_mul_le Nat.two_pos, Nat.mul_comm]
    exact ⟨fun h => ⟨Nat.lt_of_mul_lt_mul_left (h.trans_lt ((Nat.lt_mul_iff_one_lt_left hn).mpr Nat.one_lt_two)), h⟩,
      And.right⟩
  -- a bin `0 < p < n` counts twice below `n / 2`, once at `n / 2`, not above: `f p - [n < 2p] f p + [2p < n] f p`
  have hw : ∀ p ∈ Ico 1 n, (if 2 * p ≤ n then (if p = 0 ∨ 2 * p = n then 1 else 2) * f p else 0) =
      f p - (if n < 2 * p then f p else 0) + (if 2 * p < n then f p else 0) := by
    intro p hp
    have h1 := (mem_Ico.mp hp).1
    rcases lt_trichotomy (2 * p) n with h | h | h
    · rw [if_pos h.le, if_neg (not_or.mpr ⟨Nat.one_le_iff_ne_zero.mp h1, h.ne⟩), if_neg h.not_gt, if_pos h]; ring
    · rw [if_pos h.le, if_pos (Or.inr h), if_neg h.not_gt, if_neg h.not_lt]; ring
    · rw [if_neg h.not_ge, if_pos h, if_neg h.not_gt]; ring
  -- re-indexing by `p ↦ n - p`: the bins above `n / 2` are those below it
  have hmirror : ∑ p ∈ Ico 1 n, (if n < 2 * p then f p else 0) = ∑ p ∈ Ico 1 n, (if 2 * p < n then f p else 0) := by
    have h := Finset.sum_Ico_reflect (fun p => if n < 2 * p then f p else 0) 1 (Nat.le_succ n)
    rw [Nat.add_sub_cancel_left, Nat.add_sub_cancel] at h
    rw [← h]
    refine Finset.sum_congr rfl fun p hp => ?_
    obtain ⟨h1, h2⟩ := mem_Ico.mp hp
    rw [hsymm p h1 h2, if_congr (by rw [Nat.mul_sub, Nat.lt_sub_iff_add_lt, Nat.two_mul n, Nat.add_lt_add_iff_left] :
      n < 2 * (n - p) ↔ 2 * p < n) rfl rfl]
  rw [hset, Finset.sum_filter, range_eq_Ico, Finset.sum_eq_sum_Ico_succ_bot hn, Finset.sum_eq_sum_Ico_succ_bot hn,
    Finset.sum_congr rfl hw, Finset.sum_add_distrib, Finset.sum_sub_distrib, hmirror, sub_add_cancel]
  simp only [Nat.mul_zero, Nat.zero_le, if_true, true_or, one_mul]

theorem C17_area_variance (fs : ℝ) (hfs : 0 < fs) (n : ℕ) (hn : 2 ≤ n) (x : ℕ → ℝ) :
    psdArea fs n x = variance n x := by
  have hn' : 0 < n := zero_lt_two.trans_le hn
  have hn0 : (n : ℝ) ≠ 0 := Nat.cast_ne_zero.mpr hn'.ne'
  simp only [psdArea, psd1, density_mul_binwidth hfs.ne', variance]
  rw [← Finset.sum_div,
    fold_sum n hn' (fun p => ‖dft n (demean n x) p‖ ^ 2) (fun p _ hp => dft_reflect n (demean n x) p hp.le hn'),
    C17_parseval n hn x, mul_div_mul_left _ _ hn0, div_eq_inv_mul, one_div]

theorem C17_scaling (fs : ℝ) (n : ℕ) (x : ℕ → ℝ) (c : ℝ) (p : ℕ) :
    psd1 fs n (fun k => c * x k) p = c ^ 2 * psd1 fs n x p := by
  rw [psd1, demean_smul, norm_sq_dft_smul, psd1]; ring

theorem C17_scaling_area (fs : ℝ) (n : ℕ) (x : ℕ → ℝ) (c : ℝ) :
    psdArea fs n (fun k => c * x k) = c ^ 2 * psdArea fs n x := by
  simp only [psdArea, C17_scaling, Finset.mul_sum, mul_assoc]

theorem C17_fs_invariance (fs fs' : ℝ) (hfs : fs ≠ 0) (hfs' : fs' ≠ 0) (n : ℕ) (x : ℕ → ℝ) :
    psdArea fs n x = psdArea fs' n x := by
  simp only [psdArea, psd1, density_mul_binwidth hfs, density_mul_binwidth hfs']

/-- Parseval, stated for a series indexed by `Fin n` with its DFT written out; holds for any
constant `μ` removed, in particular the mean `(∑ k, x k) / n` -/
theorem C17_parseval_fin (n : ℕ) (hn : 2 ≤ n) (x : Fin n → ℝ) (μ : ℝ) :
    ∑ p : Fin n, ‖∑ k : Fin n, ((x k - μ : ℝ) : ℂ) *
        Complex.exp (-2 * Real.pi * Complex.I * (p : ℕ) * (k : ℕ) / n)‖ ^ 2 =
      n * ∑ k : Fin n, (x k - μ) ^ 2 := by
  have h := parseval n (zero_lt_two.trans_le hn) (fun k => if h : k < n then x ⟨k, h⟩ - μ else 0)
  rw [Finset.sum_range, Finset.sum_range] at h
  simp only [dft, Finset.sum_range, Fin.is_lt, dite_true, Fin.eta] at h
  exact h

end FF
