/-
C10 — in ONE variable the HL-RF iteration of the executable model is Newton's method on `G( u ) = g( T( u ) )`.

With `dim = 1` (so `L = [ 1 ]`) and any marginal, the pulled-back gradient is the number `G'( u ) = ( dx/dz )( x ) · g'( x )` and the
loop body of `hlrfFORM` (`Form.step`) returns

    u_new = u - G( u ) / G'( u ),        beta = -( G'( u ) / |G'( u )| ) · u_new

So the convergence behaviour of the one-variable problems of C10 (pf = F(c)) is that of Newton's iteration for the root of `G`:
a fixed point of the step is a root, and for an affine `G` the root is reached in one step from anywhere.
-/
import FFVerif.Proofs.C10Loop
namespace FF.Form
open FF.Linalg FF.Nataf Finset

/-- the pulled-back derivative in one variable -/
noncomputable def G' (T : Model ℝ) (dg : Vec ℝ → Vec ℝ) (u : Vec ℝ) : ℝ :=
  (T.marg 0).dxdz (getX T u 0) * dg (getX T u) 0

theorem gradU_1d (T : Model ℝ) (h1 : T.dim = 1) (hL : T.L 0 0 = 1) (dg : Vec ℝ → Vec ℝ) (u : Vec ℝ) :
    gradU T (getX T u) (dg (getX T u)) 0 = G' T dg u := by
  unfold gradU G'
  rw [tmulVec_real, h1, Finset.sum_range_one, hL, one_mul]

/-- the loop body in one variable: `β = ( G − u G' ) / |G'|`, `u_new = −β · G' / |G'|` -/
theorem step_1d (T : Model ℝ) (h1 : T.dim = 1) (hL : T.L 0 0 = 1) (g : Vec ℝ → ℝ) (dg : Vec ℝ → Vec ℝ) (u : Vec ℝ) :
    (step T g dg u).beta = (g (getX T u) - u 0 * G' T dg u) / |G' T dg u| ∧
    (step T g dg u).u 0 = -(step T g dg u).beta * (G' T dg u / |G' T dg u|) := by
  rw [step_real, h1]
  simp only [norm_real, dot_real, Finset.sum_range_one, Real.sqrt_mul_self_eq_abs, gradU_1d T h1 hL, and_self]

theorem C10m_newton_1d (T : Model ℝ) (h1 : T.dim = 1) (hL : T.L 0 0 = 1) (g : Vec ℝ → ℝ) (dg : Vec ℝ → Vec ℝ) (u : Vec ℝ)
    (hG : G' T dg u ≠ 0) :
    (step T g dg u).u 0 = u 0 - g (getX T u) / G' T dg u := by
  rw [(step_1d T h1 hL g dg u).2, (step_1d T h1 hL g dg u).1, neg_mul, div_mul_div_comm, abs_mul_abs_self,
    mul_div_mul_right _ _ hG, sub_div, mul_div_cancel_right₀ _ hG, neg_sub]

theorem C10m_newton_1d_beta (T : Model ℝ) (h1 : T.dim = 1) (hL : T.L 0 0 = 1) (g : Vec ℝ → ℝ) (dg : Vec ℝ → Vec ℝ) (u : Vec ℝ)
    (hG : G' T dg u ≠ 0) :
    (step T g dg u).beta = -(G' T dg u / |G' T dg u|) * (step T g dg u).u 0 := by
  rw [(step_1d T h1 hL g dg u).2, ← mul_assoc, neg_mul_neg, mul_right_comm, div_mul_div_comm, abs_mul_abs_self,
    div_self (mul_self_ne_zero.mpr hG), one_mul]

theorem C10m_newton_1d_fixed_iff (T : Model ℝ) (h1 : T.dim = 1) (hL : T.L 0 0 = 1) (g : Vec ℝ → ℝ) (dg : Vec ℝ → Vec ℝ) (u : Vec ℝ)
    (hG : G' T dg u ≠ 0) :
    (step T g dg u).u 0 = u 0 ↔ g (getX T u) = 0 := by
  rw [C10m_newton_1d T h1 hL g dg u hG, sub_eq_self, div_eq_zero_iff, or_iff_left hG]

theorem C10m_newton_1d_affine (T : Model ℝ) (h1 : T.dim = 1) (hL : T.L 0 0 = 1) (mu sigma c d : ℝ)
    (hm : T.marg 0 = .normal mu sigma) (hb : sigma * c ≠ 0) (u : Vec ℝ) :
    (step T (fun x => d + c * x 0) (fun _ _ => c) u).u 0 = -(d + c * mu) / (sigma * c) := by
  have hG' : G' T (fun _ _ => c) u = sigma * c := by unfold G'; rw [hm]; rfl
  have hx : getX T u 0 = mu + sigma * u 0 := by
    rw [getX_normal T u 0 mu sigma hm, mulVec_real, h1, Finset.sum_range_one, hL, one_mul]
  rw [C10m_newton_1d T h1 hL _ _ u (by rw [hG']; exact hb), hG', hx, eq_div_iff hb, sub_mul, div_mul_cancel₀ _ hb]
  ring

/-- non-vacuity: `g( x ) = 2 - x` of `x ~ N( 1, 1/2 )`, from `u = 1`: `G = 1/2`, `G' = -1/2`, Newton step to `u = 2` (`x = 2`) -/
example : (step ({ dim := 1, marg := fun _ => .normal 1 (1 / 2), L := fun _ _ => 1, Linv := fun _ _ => 1 } : Model ℝ)
    (fun x => (2 : ℝ) + (-1) * x 0) (fun _ _ => (-1 : ℝ)) (fun _ => (1 : ℝ))).u 0 = 2 := by
  rw [C10m_newton_1d_affine _ rfl rfl 1 (1 / 2) (-1) 2 rfl (by norm_num)]
  norm_num

end FF.Form
