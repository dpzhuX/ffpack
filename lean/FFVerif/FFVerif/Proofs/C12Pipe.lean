/-
C12 — the EXECUTABLE model of the curvature extraction (`Model/SormPipe.lean`, compared with `mainCurvaturesAtDesignPoint`
through its eigenvalues), at the reals.  `curvatureBlock_real` writes the model out once: the rows depend on the gradient only
through the alignment vector, the block is the conjugation of `hessU / ‖∇G‖` with the first `n - 1` rows.  A flat limit surface
(normal marginals, vanishing Hessian) gives the zero block whatever the basis, so SORM = FORM by `C12_zero_curvature`; a symmetric
`Hx` gives a symmetric block (real curvatures); and the paraboloid in standard normal space.
-/
import FFVerif.Proofs.C10Loop
import FFVerif.Model.SormPipe
namespace FF.SormPipe
open FF.Linalg FF.Nataf FF.Form Finset

theorem hessU_real (T : Model ℝ) (x a : Vec ℝ) (Hx : Mat ℝ) (i j : Nat) :
    hessU T x a Hx i j = (∑ k ∈ range T.dim, ∑ l ∈ range T.dim, jInv T x k i * Hx k l * jInv T x l j)
      + ∑ k ∈ range T.dim, T.L k i * (a k * Marg.d2xdz2 (T.marg k) (x k)) * T.L k j := by
  unfold hessU
  simp only [fsum_real]

theorem hessU_congr (T : Model ℝ) (x a : Vec ℝ) (H1 H2 : Mat ℝ) (h : ∀ k < T.dim, ∀ l < T.dim, H1 k l = H2 k l) :
    hessU T x a H1 = hessU T x a H2 := by
  funext i j
  rw [hessU_real, hessU_real]
  congr 1
  exact sum_congr rfl fun k hk => sum_congr rfl fun l hl => by rw [h k (mem_range.mp hk) l (mem_range.mp hl)]

/-- normal marginals have no curvature of their own: only the pulled-back Hessian of `g` is left -/
theorem hessU_normal (T : Model ℝ) (mu sigma : Vec ℝ) (h : AllNormal T mu sigma) (x a : Vec ℝ) (Hx : Mat ℝ) (i j : Nat) :
    hessU T x a Hx i j = ∑ k ∈ range T.dim, ∑ l ∈ range T.dim, jInv T x k i * Hx k l * jInv T x l j := by
  rw [hessU_real, add_eq_left]
  refine Finset.sum_eq_zero (fun k hk => ?_)
  rw [h k (Finset.mem_range.mp hk), Marg.d2xdz2, zero_real, mul_zero, mul_zero, zero_mul]

theorem C12p_hessU_flat (T : Model ℝ) (mu sigma : Vec ℝ) (h : AllNormal T mu sigma) (x a : Vec ℝ) (Hx : Mat ℝ)
    (hH : ∀ k l, Hx k l = 0) (i j : Nat) : hessU T x a Hx i j = 0 := by
  rw [hessU_normal T mu sigma h]
  exact Finset.sum_eq_zero (fun k _ => Finset.sum_eq_zero (fun l _ => by rw [hH, mul_zero, zero_mul]))

theorem C12p_hessU_symm (T : Model ℝ) (x a : Vec ℝ) (Hx : Mat ℝ) (hs : ∀ k l, Hx k l = Hx l k) (i j : Nat) :
    hessU T x a Hx i j = hessU T x a Hx j i := by
  rw [hessU_real, hessU_real]
  congr 1
  · rw [Finset.sum_comm]
    refine Finset.sum_congr rfl (fun l _ => Finset.sum_congr rfl (fun k _ => ?_))
    rw [hs k l]; ring
  · exact Finset.sum_congr rfl (fun k _ => by ring)

noncomputable def unitVec (c : Nat) : Vec ℝ := fun i => if i = c then one else zero

/-- the alignment vector of the model: `-lsfGradAtU / |lsfGradAtU|` -/
noncomputable def alignOf (T : Nataf.Model ℝ) (x a : Vec ℝ) : Vec ℝ :=
  fun i => -(one : ℝ) * Form.gradU T x a i / Linalg.norm T.dim (Form.gradU T x a)

/-- the rows of `H` for the alignment vector `al`: the Gram–Schmidt basis of `al :: (e_j, j ≠ argmax |al|)` with `al` moved to the
end -/
noncomputable def basisRows (n : Nat) (al : Vec ℝ) : List (Vec ℝ) :=
  let B := Gram.orth n (unitVec (argmaxAbs n al) :: ((List.range n).filter (· ≠ argmaxAbs n al)).map unitVec) (some al)
  B.tail ++ B.take 1

/-- the model at the reals, with the stored vectors read back -/
theorem curvatureBlock_real (T : Model ℝ) (x a : Vec ℝ) (Hx : Mat ℝ) :
    curvatureBlock T x a Hx =
      { gradNorm := norm T.dim (gradU T x a)
        rows := basisRows T.dim (alignOf T x a)
        block := ((basisRows T.dim (alignOf T x a)).take (T.dim - 1)).map fun ri =>
          ((basisRows T.dim (alignOf T x a)).take (T.dim - 1)).map fun rj =>
            ∑ k ∈ range T.dim, ∑ l ∈ range T.dim, ri k * (hessU T x a Hx k l / norm T.dim (gradU T x a)) * rj l } := by
  unfold curvatureBlock
  simp only [ofArr_mkArr, ofArr2_mkArr2, fsum_real]
  rfl

theorem block_entry (T : Model ℝ) (x a : Vec ℝ) (Hx : Mat ℝ) :
    (curvatureBlock T x a Hx).block =
      ((curvatureBlock T x a Hx).rows.take (T.dim - 1)).map (fun ri =>
        ((curvatureBlock T x a Hx).rows.take (T.dim - 1)).map (fun rj =>
          ∑ k ∈ range T.dim, ∑ l ∈ range T.dim, ri k * (hessU T x a Hx k l / (curvatureBlock T x a Hx).gradNorm) * rj l)) := by
  rw [curvatureBlock_real]

/-- **flat limit surface ⇒ all entries of the curvature matrix vanish** (normal marginals) -/
theorem C12p_block_flat (T : Model ℝ) (mu sigma : Vec ℝ) (h : AllNormal T mu sigma) (x a : Vec ℝ) (Hx : Mat ℝ)
    (hH : ∀ k l, Hx k l = 0) : ∀ row ∈ (curvatureBlock T x a Hx).block, ∀ e ∈ row, e = 0 := by
  rw [block_entry]
  intro row hrow e he
  obtain ⟨ri, _, rfl⟩ := List.mem_map.mp hrow
  obtain ⟨rj, _, rfl⟩ := List.mem_map.mp he
  refine Finset.sum_eq_zero (fun k _ => Finset.sum_eq_zero (fun l _ => ?_))
  rw [C12p_hessU_flat T mu sigma h x a Hx hH, zero_div, mul_zero, zero_mul]

theorem C12p_block_symm (T : Model ℝ) (x a : Vec ℝ) (Hx : Mat ℝ) (hs : ∀ k l, Hx k l = Hx l k)
    (ri rj : Vec ℝ) :
    ∑ k ∈ range T.dim, ∑ l ∈ range T.dim, ri k * (hessU T x a Hx k l / (curvatureBlock T x a Hx).gradNorm) * rj l
      = ∑ k ∈ range T.dim, ∑ l ∈ range T.dim, rj k * (hessU T x a Hx k l / (curvatureBlock T x a Hx).gradNorm) * ri l := by
  rw [Finset.sum_comm]
  refine Finset.sum_congr rfl (fun l _ => Finset.sum_congr rfl (fun k _ => ?_))
  rw [C12p_hessU_symm T x a Hx hs k l]; ring

/-- standard normal space: unit normal marginals, identity factor -/
def Standard (T : Model ℝ) : Prop :=
  AllNormal T (fun _ => 0) (fun _ => 1) ∧ ∀ i j, i < T.dim → j < T.dim → T.L i j = if i = j then 1 else 0

theorem jInv_standard (T : Model ℝ) (hT : Standard T) (x : Vec ℝ) (k l : Nat) (hk : k < T.dim) (hl : l < T.dim) :
    jInv T x k l = if k = l then 1 else 0 := by
  rw [jInv, hT.1 k hk, hT.2 k l hk hl, Marg.dxdz, one_mul]

theorem hessU_standard (T : Model ℝ) (hT : Standard T) (x a : Vec ℝ) (Hx : Mat ℝ) (i j : Nat) (hi : i < T.dim) (hj : j < T.dim) :
    hessU T x a Hx i j = Hx i j := by
  rw [hessU_normal T _ _ hT.1, ← sum_ite_mul T.dim (fun k => Hx k j) i hi]
  refine Finset.sum_congr rfl fun k hk => ?_
  rw [← sum_ite_mul T.dim (fun l => (if k = i then 1 else 0) * Hx k l) j hj]
  refine Finset.sum_congr rfl fun l hl => ?_
  rw [jInv_standard T hT x k i (mem_range.mp hk) hi, jInv_standard T hT x l j (mem_range.mp hl) hj]
  ring

theorem gradU_standard (T : Nataf.Model ℝ) (hT : Standard T) (x a : Vec ℝ) (j : Nat) (hj : j < T.dim) :
    Form.gradU T x a j = a j := by
  rw [gradU_normal T _ _ hT.1, wOf, tmulVec_one _ _ hT.2 _ j hj, one_mul]

theorem sum_rank_one_form (n p : Nat) (v : Nat → Vec ℝ) (κ : Nat → ℝ) (r r' : Vec ℝ) :
    ∑ k ∈ range n, ∑ m ∈ range n, r k * (∑ j ∈ range p, κ j * v j k * v j m) * r' m
      = ∑ j ∈ range p, dot n r (v j) * κ j * dot n r' (v j) := by
  have : ∀ k m, r k * (∑ j ∈ range p, κ j * v j k * v j m) * r' m = ∑ j ∈ range p, (r k * v j k) * κ j * (r' m * v j m) := by
    intro k m
    rw [Finset.mul_sum, Finset.sum_mul]
    exact Finset.sum_congr rfl (fun j _ => by ring)
  simp only [this]
  rw [Finset.sum_congr rfl (fun k _ => Finset.sum_comm), Finset.sum_comm]
  refine Finset.sum_congr rfl (fun j _ => ?_)
  rw [dot_real, dot_real, Finset.sum_mul, Finset.sum_mul]
  exact Finset.sum_congr rfl (fun k _ => by rw [Finset.mul_sum])

/-- Parseval in the complement of `e`: if `v_0 … v_{p-1}` and `e` resolve the identity, `Σ_j v_j v_jᵀ` fixes the vectors orthogonal
to `e`, so such a vector has with any other the inner product of their coordinates along the `v_j` -/
theorem sum_dot_mul_dot (n p : Nat) (v : Nat → Vec ℝ) (e : Vec ℝ)
    (hcomplete : ∀ k m, k < n → m < n → (∑ j ∈ range p, v j k * v j m) + e k * e m = if k = m then 1 else 0)
    (r r' : Vec ℝ) (hr : dot n r e = 0) :
    ∑ j ∈ range p, dot n r (v j) * dot n r' (v j) = dot n r r' := by
  have hfix : ∀ m ∈ range n, ∑ k ∈ range n, r k * ∑ j ∈ range p, v j k * v j m = r m := fun m hm => by
    have hk : ∀ k ∈ range n, r k * ∑ j ∈ range p, v j k * v j m = (if k = m then 1 else 0) * r k - r k * e k * e m :=
      fun k hk => by rw [eq_sub_of_add_eq (hcomplete k m (mem_range.mp hk) (mem_range.mp hm))]; ring
    rw [sum_congr rfl hk, sum_sub_distrib, sum_ite_mul n r m (mem_range.mp hm), ← sum_mul, ← dot_real, hr, zero_mul, sub_zero]
  have h := sum_rank_one_form n p v (fun _ => 1) r r'
  simp only [mul_one, one_mul] at h
  rw [← h, sum_comm, dot_real]
  exact sum_congr rfl fun m hm => by rw [← sum_mul, hfix m hm]

/-- **paraboloid clause on the model.**  Standard normal space; `e` a unit vector, `v 0 … v (n-2)` unit vectors that
together with `e` form an orthonormal basis (completeness: `Σ_j v_j v_jᵀ + e eᵀ = 1`); the Hessian of the paraboloid
`β − ⟨e,u⟩ + ½ Σ_j κ_j ⟨v_j,u⟩²` is `Σ_j κ_j v_j v_jᵀ` and its gradient norm at the design point is `1`.  Then for ANY rows
`r_i`, `r_l` that are orthonormal and orthogonal to `e` (the rows the Gram–Schmidt step of the model produces,
`C20m_orthonormal`), the entry of the curvature matrix is `Σ_j R_ij κ_j R_lj` with `R_ij = ⟨r_i, v_j⟩`, and `R Rᵀ = 1`: the
curvature matrix is `R diag(κ) Rᵀ` for an orthogonal `R`, so its eigenvalues are the `κ_j` (`C12_similar_charpoly`) — whatever
the rotation and the order of the axes. -/
theorem C12p_paraboloid_entry (T : Model ℝ) (hT : Standard T) (x a : Vec ℝ) (e : Vec ℝ) (v : Nat → Vec ℝ) (κ : Nat → ℝ)
    (hcomplete : ∀ k m, k < T.dim → m < T.dim →
      (∑ j ∈ range (T.dim - 1), v j k * v j m) + e k * e m = if k = m then 1 else 0)
    (ri rl : Vec ℝ) (hre_i : dot T.dim ri e = 0) (hre_l : dot T.dim rl e = 0) :
    let Hx : Mat ℝ := fun k m => ∑ j ∈ range (T.dim - 1), κ j * v j k * v j m
    (∑ k ∈ range T.dim, ∑ m ∈ range T.dim, ri k * (hessU T x a Hx k m / 1) * rl m
        = ∑ j ∈ range (T.dim - 1), dot T.dim ri (v j) * κ j * dot T.dim rl (v j)) ∧
    (∑ j ∈ range (T.dim - 1), dot T.dim ri (v j) * dot T.dim rl (v j) = dot T.dim ri rl) := by
  intro Hx
  refine ⟨?_, sum_dot_mul_dot T.dim (T.dim - 1) v e hcomplete ri rl hre_i⟩
  rw [← sum_rank_one_form]
  refine Finset.sum_congr rfl (fun k hk => Finset.sum_congr rfl (fun m hm => ?_))
  rw [hessU_standard T hT x a Hx k m (mem_range.mp hk) (mem_range.mp hm), div_one]

/-- non-vacuity: the two-dimensional standard space with `e = (0, 1)`, `v₀ = (1, 0)` meets the hypotheses -/
example : Standard { dim := 2, marg := fun _ => .normal 0 1, L := fun i j => if i = j then 1 else 0,
                     Linv := fun i j => if i = j then 1 else 0 } ∧
    (∀ k m, k < 2 → m < 2 →
      (∑ j ∈ range (2 - 1), (fun (_ : Nat) (q : Nat) => if q = 0 then (1 : ℝ) else 0) j k *
          (fun (_ : Nat) (q : Nat) => if q = 0 then (1 : ℝ) else 0) j m)
        + (fun q : Nat => if q = 1 then (1 : ℝ) else 0) k * (fun q : Nat => if q = 1 then (1 : ℝ) else 0) m
        = if k = m then 1 else 0) := by
  refine ⟨⟨fun _ _ => rfl, fun _ _ _ _ => rfl⟩, ?_⟩
  intro k m hk hm
  rw [sum_range_one]
  have hk' : k = 0 ∨ k = 1 := by omega
  have hm' : m = 0 ∨ m = 1 := by omega
  rcases hk' with rfl | rfl <;> rcases hm' with rfl | rfl <;> norm_num

end FF.SormPipe
