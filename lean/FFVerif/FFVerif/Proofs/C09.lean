/-
C09 — property theorems: the translated mean-stress corrections satisfy their defining equations
for every admissible range, strength and safety factor n ≥ 1, and the stated consequences.
`FF.Gen.*` is regenerated from src/ffpack/lcc/meanStressCorrection.py on every run.
-/
import Mathlib.Tactic.Ring
import FFVerif.Lemmas.RealScalar
import FFVerif.Gen.MeanStress
import FFVerif.Props.C09
namespace FF
open Gen

/-- `if n != 1: range *= n` is no case distinction at the reals -/
theorem factored_real (x n : ℝ) : (if n ≠ 1 then x * n else x) = x * n := by
  rw [ite_eq_left_iff, not_not]; rintro rfl; rw [mul_one]

/-- the factored amplitude `n σa` over `1 - q` resp. `1 - q²`, `q = n σm / strength` -/
theorem goodman_closed (lo hi su n : ℝ) :
    goodmanCorrection lo hi su n = (n * ((hi - lo) / 2)) / (1 - n * ((lo + hi) / 2) / su) := by
  unfold goodmanCorrection
  simp only [real_scalar, factored_real]
  ring

/-- the translated Soderberg rule is the Goodman rule term for term, called with the yield strength -/
theorem soderberg_closed (lo hi sy n : ℝ) :
    soderbergCorrection lo hi sy n = (n * ((hi - lo) / 2)) / (1 - n * ((lo + hi) / 2) / sy) :=
  goodman_closed lo hi sy n

theorem gerber_closed (lo hi su n : ℝ) :
    gerberCorrection lo hi su n = (n * ((hi - lo) / 2)) / (1 - (n * ((lo + hi) / 2) / su) ^ 2) := by
  unfold gerberCorrection
  simp only [real_scalar, factored_real]
  ring

/-- Goodman: sa/s + sm/su = 1/n -/
theorem C09_goodman (lo hi su n : ℝ) (hn : 1 ≤ n) (hlt : lo < hi) (hsu : 0 < su)
    (hm : n * ((lo + hi) / 2) < su) :
    C09.linearResidual lo hi su n (goodmanCorrection lo hi su n) = 0 := by
  rw [goodman_closed]
  unfold C09.linearResidual C09.two C09.one
  simp only [real_scalar]
  have hn0 : n ≠ 0 := (zero_lt_one.trans_le hn).ne'
  have ha : (hi - lo) / 2 ≠ 0 := div_ne_zero (sub_ne_zero.mpr hlt.ne') two_ne_zero
  -- σa / (n σa / D) = D / n
  rw [div_div_eq_mul_div, mul_comm _ (1 - _), mul_div_mul_right _ _ ha, mul_div_assoc, sub_div,
    mul_div_cancel_left₀ _ hn0]
  ring

/-- Soderberg: sa/s + sm/sy = 1/n -/
theorem C09_soderberg (lo hi sy n : ℝ) (hn : 1 ≤ n) (hlt : lo < hi) (hsy : 0 < sy)
    (hm : n * ((lo + hi) / 2) < sy) :
    C09.linearResidual lo hi sy n (soderbergCorrection lo hi sy n) = 0 :=
  C09_goodman lo hi sy n hn hlt hsy hm

/-- Gerber: n*sa/s + (n*sm/su)^2 = 1 -/
theorem C09_gerber (lo hi su n : ℝ) (hn : 1 ≤ n) (hlt : lo < hi) (hsu : 0 < su)
    (hr : -hi ≤ lo) (hm : n * ((lo + hi) / 2) < su) :
    C09.gerberResidual lo hi su n (gerberCorrection lo hi su n) = 0 := by
  rw [gerber_closed]
  unfold C09.gerberResidual C09.two C09.one
  simp only [real_scalar]
  have hA : n * ((hi - lo) / 2) ≠ 0 :=
    mul_ne_zero (zero_lt_one.trans_le hn).ne' (div_ne_zero (sub_ne_zero.mpr hlt.ne') two_ne_zero)
  -- n σa / (n σa / D) = D
  rw [div_div_cancel₀ hA]
  ring

theorem C09_zero_mean (a su : ℝ) (ha : 0 < a) (hsu : 0 < su) :
    goodmanCorrection (-a) a su 1 = a ∧ soderbergCorrection (-a) a su 1 = a ∧ gerberCorrection (-a) a su 1 = a := by
  -- zero mean: `q = 0`, and the amplitude `(a - (-a)) / 2` is `a`
  rw [goodman_closed, soderberg_closed, gerber_closed, neg_add_cancel, zero_div, mul_zero, zero_div,
    zero_pow two_ne_zero, sub_zero, div_one, one_mul, sub_neg_eq_add, add_self_div_two]
  exact ⟨rfl, rfl, rfl⟩

theorem C09_homogeneous (lo hi su n k : ℝ) (hk : 0 < k) (hsu : 0 < su) :
    goodmanCorrection (k * lo) (k * hi) (k * su) n = k * goodmanCorrection lo hi su n ∧
    soderbergCorrection (k * lo) (k * hi) (k * su) n = k * soderbergCorrection lo hi su n ∧
    gerberCorrection (k * lo) (k * hi) (k * su) n = k * gerberCorrection lo hi su n := by
  -- the utilisation `q` is unchanged and the factored amplitude is multiplied by `k`
  have e : n * ((k * lo + k * hi) / 2) / (k * su) = n * ((lo + hi) / 2) / su := by
    rw [← mul_add, mul_div_assoc k, mul_left_comm, mul_div_mul_left _ _ hk.ne']
  have eA : n * ((k * hi - k * lo) / 2) = k * (n * ((hi - lo) / 2)) := by
    rw [← mul_sub, mul_div_assoc k, mul_left_comm]
  simp only [goodman_closed, soderberg_closed, gerber_closed, e, eA, mul_div_assoc, true_and]

/-- all three corrections have the form `A / (1 - q)` -/
theorem div_one_sub_mono {A A' q q' : ℝ} (hA : 0 ≤ A') (hAA : A ≤ A') (hqq : q ≤ q') (hq' : q' < 1) :
    A / (1 - q) ≤ A' / (1 - q') :=
  div_le_div₀ hA hAA (sub_pos.mpr hq') (sub_le_sub_left hqq 1)

theorem C09_monotone_n (lo hi su n n' : ℝ) (hn : 1 ≤ n) (hnn : n ≤ n') (hlt : lo < hi) (hsu : 0 < su)
    (hmean : 0 ≤ lo + hi) (hm : n' * ((lo + hi) / 2) < su) :
    goodmanCorrection lo hi su n ≤ goodmanCorrection lo hi su n' := by
  rw [goodman_closed, goodman_closed]
  have ha : 0 ≤ (hi - lo) / 2 := div_nonneg (sub_nonneg.mpr hlt.le) zero_le_two
  have hmn : 0 ≤ (lo + hi) / 2 := div_nonneg hmean zero_le_two
  exact div_one_sub_mono (mul_nonneg (zero_le_one.trans (hn.trans hnn)) ha) (mul_le_mul_of_nonneg_right hnn ha)
    (div_le_div_of_nonneg_right (mul_le_mul_of_nonneg_right hnn hmn) hsu.le) ((div_lt_one hsu).mpr hm)

theorem C09_monotone_mean (a m m' su n : ℝ) (hn : 1 ≤ n) (ha : 0 < a) (hsu : 0 < su) (hmm : m ≤ m')
    (hm : n * m' < su) :
    goodmanCorrection (m - a) (m + a) su n ≤ goodmanCorrection (m' - a) (m' + a) su n := by
  have hn0 : 0 ≤ n := zero_le_one.trans hn
  -- amplitude `a`, mean `m` resp. `m'`
  simp only [goodman_closed, add_sub_sub_cancel, sub_add_add_cancel, add_self_div_two]
  exact div_one_sub_mono (mul_nonneg hn0 ha.le) le_rfl
    (div_le_div_of_nonneg_right (mul_le_mul_of_nonneg_left hmm hn0) hsu.le) ((div_lt_one hsu).mpr hm)

theorem C09_ordering (lo hi sy su n : ℝ) (hn : 1 ≤ n) (hlt : lo < hi) (hsy : 0 < sy) (hsu : sy ≤ su)
    (hmean : 0 ≤ lo + hi) (hm : n * ((lo + hi) / 2) < sy) :
    gerberCorrection lo hi su n ≤ goodmanCorrection lo hi su n ∧
    goodmanCorrection lo hi su n ≤ soderbergCorrection lo hi sy n := by
  rw [goodman_closed, soderberg_closed, gerber_closed]
  have hn0 : 0 ≤ n := zero_le_one.trans hn
  have hA : 0 ≤ n * ((hi - lo) / 2) := mul_nonneg hn0 (div_nonneg (sub_nonneg.mpr hlt.le) zero_le_two)
  have hM : 0 ≤ n * ((lo + hi) / 2) := mul_nonneg hn0 (div_nonneg hmean zero_le_two)
  have hqy : n * ((lo + hi) / 2) / sy < 1 := (div_lt_one hsy).mpr hm
  have hqu : n * ((lo + hi) / 2) / su ≤ n * ((lo + hi) / 2) / sy := div_le_div_of_nonneg_left hM hsy hsu
  have hq0 : 0 ≤ n * ((lo + hi) / 2) / su := div_nonneg hM (hsy.le.trans hsu)
  -- q² ≤ q for the utilisation 0 ≤ q ≤ 1
  exact ⟨div_one_sub_mono hA le_rfl (pow_le_of_le_one hq0 (hqu.trans hqy.le) two_ne_zero) (hqu.trans_lt hqy),
    div_one_sub_mono hA le_rfl hqu hqy⟩

-- non-vacuity: an admissible point with n = 2 (the case the unrepaired code got wrong)
example : (1 : ℝ) ≤ 2 ∧ (1 : ℝ) < 2 ∧ (0 : ℝ) < 4 ∧ (2 : ℝ) * ((1 + 2) / 2) < 4 := by norm_num
example : goodmanCorrection (1 : ℝ) 2 4 2 = 4 := by rw [goodman_closed]; norm_num

end FF
