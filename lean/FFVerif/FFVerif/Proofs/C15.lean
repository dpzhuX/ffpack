/-
C15 — property theorems about the seeding contract (state machine `FF.Seed`), over all operation
sequences and all prior generator states.  The implementation is tied to the machine by protocol
conformance of its observed `np.random.seed` / draw events, and by black-box replay.
-/
import FFVerif.Model.Seed
namespace FF
open Seed

theorem runEvents_draws_seeded (n f : Nat) : ∀ (k p : Nat),
    runEvents ⟨.seeded n p, f⟩ (List.replicate k .draw)
      = (⟨.seeded n (p + k), f⟩, (List.range' p k).map (Gen.seeded n))
  | 0, _ => rfl
  | k + 1, p => by
    rw [List.replicate_succ, runEvents, stepEvent]
    simp only []
    rw [runEvents_draws_seeded n f k (p + 1), Nat.add_assoc, Nat.add_comm 1 k]
    rfl

/-- (i) a call with an integer seed consumes exactly the first draws of that seed's stream, whatever
the generator state was before -/
theorem C15_seeded_call (n k : Nat) (s : State) :
    (runOp s (.api (.int n) k)).2 = (List.range k).map (fun i => Gen.seeded n i) := by
  rw [runOp, Op.events, runEvents, stepEvent]
  simp only []
  rw [runEvents_draws_seeded, List.range_eq_range']
  rfl

/-- … hence two calls with the same integer seed return identical output for any two prior states -/
theorem C15_reproducible (n k : Nat) (s s' : State) :
    (runOp s (.api (.int n) k)).2 = (runOp s' (.api (.int n) k)).2 := by
  rw [C15_seeded_call, C15_seeded_call]

def unseeded : Op → Bool
  | .api (.int _) _ => false
  | .construct (.int _) => false
  | .setSeed _ => false
  | _ => true

theorem events_unseeded : ∀ {op : Op}, unseeded op = true → ∃ k, op.events = List.replicate k .draw
  | .api .none k, _ | .api .other k, _ => ⟨k, rfl⟩
  | .construct .none, _ | .construct .other, _ => ⟨0, rfl⟩

theorem runOps_unseeded_det (n : Nat) : ∀ (ops : List Op), (∀ op ∈ ops, unseeded op = true) →
    ∀ (p f f' : Nat), (runOps ⟨.seeded n p, f⟩ ops).2 = (runOps ⟨.seeded n p, f'⟩ ops).2
  | [], _, _, _, _ => rfl
  | op :: ops, hu, p, f, f' => by
    obtain ⟨k, hk⟩ := events_unseeded (hu op List.mem_cons_self)
    rw [runOps, runOps, runOp, runOp, hk, runEvents_draws_seeded, runEvents_draws_seeded]
    exact congrArg (List.cons _) (runOps_unseeded_det n ops (fun o ho => hu o (List.mem_cons_of_mem _ ho)) _ f f')

/-- (ii) after `globalConfig.setSeed( n )`, the outputs of any sequence of calls that pass no integer
seed are a function of `n` and the sequence only — not of the generator state before `setSeed` -/
theorem C15_global_seed_governs (n : Nat) (ops : List Op) (hu : ∀ op ∈ ops, unseeded op = true)
    (s s' : State) :
    (runOps s (.setSeed (some n) :: ops)).2 = (runOps s' (.setSeed (some n) :: ops)).2 :=
  congrArg (List.cons []) (runOps_unseeded_det n ops hu 0 s.fresh s'.fresh)

/-- (iii) constructing a randomised object without an integer seed never disturbs the generator -/
theorem C15_construct_inert (arg : SeedArg) (h : ∀ n, arg ≠ .int n) (s : State) :
    runOp s (.construct arg) = (s, []) := by
  cases arg with
  | int n => exact absurd rfl (h n)
  | none => rfl
  | other => rfl

-- the defect this check found (every un-seeded call re-seeding from entropy) does NOT satisfy (ii):
-- after `seed none` the stream is a fresh entropy stream, different for different prior states
example : (stepEvent ⟨.seeded 3 0, 0⟩ (.seed none)).1.gen ≠ (stepEvent ⟨.seeded 3 0, 1⟩ (.seed none)).1.gen := by
  decide

end FF
