/-
C14 — property theorems about one step of the two samplers (code-shaped models `mhStep`,
`auAssemble`/`auStep`): the decision rule, rejection of negative densities, invariance of the
support for positive draws, and the witness of the recorded finding at u = 0.
Detailed balance of the induced kernels (finite state spaces) is in Proofs/C14Balance.lean.
-/
import FFVerif.Model.Sampler
namespace FF
open Sampler

/-- `accepts` is "the uniform draw is at most the density ratio" (for a positive current density):
`uNum/uDen ≤ fcand/fcur`, cross-multiplied -/
theorem accepts_iff (fcur fcand : Int) (uNum uDen : Nat) :
    accepts fcur fcand uNum uDen = true ↔ (uNum : Int) * fcur ≤ fcand * (uDen : Int) :=
  decide_eq_true_iff

/-- one step moves to the proposed point exactly when the draw is at most the ratio and the move
stays in the domain, and otherwise stays put -/
theorem C14_rule {σ : Type} (f : σ → Int) (dom : σ → σ → Bool) (cur cand : σ) (uNum uDen : Nat)
    (h1 : 0 ≤ f cur) (h2 : 0 ≤ f cand) :
    mhStep f dom cur cand uNum uDen =
      .ok (if accepts (f cur) (f cand) uNum uDen = true ∧ dom cur cand = true then cand else cur) := by
  unfold mhStep
  rw [if_neg (by omega)]
  cases accepts (f cur) (f cand) uNum uDen <;> simp

theorem C14_negative {σ : Type} (f : σ → Int) (dom : σ → σ → Bool) (cur cand : σ) (uNum uDen : Nat)
    (h : f cur < 0 ∨ f cand < 0) : mhStep f dom cur cand uNum uDen = .error "negative density" := by
  unfold mhStep; rw [if_pos h]

/-- with a positive draw the chain never leaves the support of the target -/
theorem C14_support {σ : Type} (f : σ → Int) (dom : σ → σ → Bool) (cur cand : σ) (uNum uDen : Nat)
    (hc : 0 < f cur) (h2 : 0 ≤ f cand) (hu : 0 < uNum) (s : σ)
    (hs : mhStep f dom cur cand uNum uDen = .ok s) : 0 < f s := by
  rw [C14_rule f dom cur cand uNum uDen (by omega) h2] at hs
  cases hs
  split
  · -- accepted: `0 < uNum * f cur ≤ f cand * uDen` rules out `f cand = 0`
    rename_i h
    have h3 := Int.lt_of_lt_of_le (Int.mul_pos (by omega) hc) ((accepts_iff _ _ _ _).mp h.1)
    rcases Int.lt_or_eq_of_le h2 with h0 | h0
    · exact h0
    · rw [← h0, Int.zero_mul] at h3; cases h3
  · exact hc

/-- the recorded finding: with the draw exactly 0 the rule moves onto a zero-density candidate -/
theorem C14_u0_leaves_support :
    mhStep (σ := Bool) (fun b => if b then 0 else 8) (fun _ _ => true) false true 0 8 = .ok true := rfl

/-- each coordinate follows the same rule; the assembled candidate is tested once -/
theorem C14_au_coordinate (f : Int → Int) (fs : List (Int → Int)) (c k : Int) (cur cands : List Int)
    (u : Nat × Nat) (us : List (Nat × Nat)) (rest : List Int) (h1 : 0 ≤ f c) (h2 : 0 ≤ f k)
    (hr : auAssemble fs cur cands us = .ok rest) :
    auAssemble (f :: fs) (c :: cur) (k :: cands) (u :: us) =
      .ok ((if accepts (f c) (f k) u.1 u.2 then k else c) :: rest) := by
  rw [auAssemble, if_neg (by omega), hr]
  rfl

theorem C14_au_negative (f : Int → Int) (fs : List (Int → Int)) (c k : Int) (cur cands : List Int)
    (u : Nat × Nat) (us : List (Nat × Nat)) (h : f c < 0 ∨ f k < 0) :
    auAssemble (f :: fs) (c :: cur) (k :: cands) (u :: us) = .error "negative density" := by
  rw [auAssemble, if_pos h]

theorem C14_au_domain (fs : List (Int → Int)) (dom : List Int → List Int → Bool) (cur cands nxt : List Int)
    (us : List (Nat × Nat)) (h : auAssemble fs cur cands us = .ok nxt) :
    auStep fs dom cur cands us = .ok (if dom cur nxt then nxt else cur) := by
  unfold auStep; rw [h]; rfl

theorem auStep_ok {fs : List (Int → Int)} {dom : List Int → List Int → Bool} {cur cands nxt : List Int}
    {us : List (Nat × Nat)} (h : auStep fs dom cur cands us = .ok nxt) : nxt = cur ∨ dom cur nxt = true := by
  cases hA : auAssemble fs cur cands us with
  | error e => rw [auStep, hA] at h; cases h
  | ok a =>
    rw [C14_au_domain fs dom cur cands a us hA] at h
    cases h
    split
    · exact .inr ‹_›
    · exact .inl rfl

end FF
