/-
C16 — proofs: the ARMA-family models satisfy (and are the unique solutions of) their documented
recurrences; the random walk takes unit steps along one axis; the randint decode is a bijection.
Core Lean only.
-/
import FFVerif.Props.C16
namespace FF
open Arma C16

theorem at'_eq_getElem (l : List Int) (i : Nat) (h : i < l.length) : at' l i = l[i] := by
  simp [at', List.getD_eq_getElem?_getD, h]

theorem at'_append_left (l r : List Int) (i : Nat) (h : i < l.length) : at' (l ++ r) i = at' l i := by
  simp [at', List.getD_eq_getElem?_getD, List.getElem?_append_left h]

theorem at'_append_self (l : List Int) (x : Int) : at' (l ++ [x]) l.length = x := by
  simp [at', List.getD_eq_getElem?_getD]

theorem at'_take (l : List Int) (i k : Nat) (h : k < i) : at' (l.take i) k = at' l k := by
  simp [at', List.getD_eq_getElem?_getD, h]

theorem at'_replicate (N : Nat) (mu : Int) (i : Nat) (h : i < N) : at' (List.replicate N mu) i = mu := by
  simp [at', List.getD_eq_getElem?_getD, h]

theorem ext_at' (l₁ l₂ : List Int) (hl : l₁.length = l₂.length)
    (h : ∀ i, i < l₁.length → at' l₁ i = at' l₂ i) : l₁ = l₂ :=
  List.ext_getElem hl fun i h1 h2 => by
    rw [← at'_eq_getElem _ _ h1, ← at'_eq_getElem _ _ h2]; exact h i h1

theorem build_succ (N : Nat) (value : Nat → List Int → Int) :
    build (N + 1) value = build N value ++ [value N (build N value)] := by
  simp [build, List.range_succ, List.foldl_append]

theorem C16_build_length (N : Nat) (value : Nat → List Int → Int) : (build N value).length = N := by
  induction N with
  | zero => rfl
  | succ n ih => rw [build_succ, List.length_append, ih]; rfl

theorem build_take (N : Nat) (value : Nat → List Int → Int) (i : Nat) (h : i ≤ N) :
    (build N value).take i = build i value := by
  induction h with
  | refl => exact List.take_of_length_le (Nat.le_of_eq (C16_build_length i value))
  | step h ih => rw [build_succ, List.take_append_of_le_length (by rw [C16_build_length]; exact h)]; exact ih

theorem C16_build_at' (N : Nat) (value : Nat → List Int → Int) (i : Nat) (h : i < N) :
    at' (build N value) i = value i ((build N value).take i) := by
  rw [← at'_take _ (i + 1) i (by omega), build_take N value (i + 1) h, build_take N value i (by omega),
    build_succ]
  have := at'_append_self (build i value) (value i (build i value))
  rwa [C16_build_length] at this

def Causal (F : Nat → List Int → Int) : Prop :=
  ∀ t (l₁ l₂ : List Int), (∀ k, k < t → at' l₁ k = at' l₂ k) → F t l₁ = F t l₂

/-- `arOK`, `maOK`, `armaOK`, `arimaOK` are `solves N` of their recurrence, by `rfl` -/
def solves (N : Nat) (G : Nat → List Int → Int) (out : List Int) : Bool :=
  out.length == N && allIdx N (fun t => at' out t == G t out)

theorem solves_iff {N : Nat} {G : Nat → List Int → Int} {out : List Int} :
    solves N G out = true ↔ out.length = N ∧ ∀ t, t < N → at' out t = G t out := by
  simp [solves, allIdx, List.all_eq_true]

theorem solves_unique {N : Nat} {G : Nat → List Int → Int} (hG : Causal G) {l₁ l₂ : List Int}
    (h1 : solves N G l₁ = true) (h2 : solves N G l₂ = true) : l₁ = l₂ := by
  obtain ⟨n1, e1⟩ := solves_iff.mp h1
  obtain ⟨n2, e2⟩ := solves_iff.mp h2
  refine ext_at' _ _ (n1.trans n2.symm) fun t ht => ?_
  induction t using Nat.strongRecOn with
  | ind t ih =>
    rw [e1 t (n1 ▸ ht), e2 t (n1 ▸ ht)]
    exact hG t _ _ fun k hk => ih k hk (by omega)

theorem solves_iff_build {N : Nat} {V G : Nat → List Int → Int} (hG : Causal G)
    (hVG : ∀ t l, V t l = G t l) (out : List Int) :
    solves N G out = true ↔ out = build N V := by
  have hb : solves N G (build N V) = true := solves_iff.mpr ⟨C16_build_length N V, fun t ht => by
    rw [C16_build_at' N V t ht, hVG]
    exact hG t _ _ fun k hk => at'_take _ _ _ hk⟩
  exact ⟨fun h => solves_unique hG h hb, fun h => h ▸ hb⟩

theorem lagSum_eq_map (coef : List Int) (g : Nat → Bool) (f : Nat → Int) :
    lagSum coef g f = (((List.range coef.length).filter g).map fun j => at' coef j * f j).foldl (· + ·) 0 :=
  List.foldl_map.symm

/-- `lags coef avail` is `lagSum coef (· < avail)` by `rfl`, so this serves the specification too -/
theorem lagSum_congr {coef : List Int} {g g' : Nat → Bool} {f f' : Nat → Int}
    (hg : ∀ j, j < coef.length → g j = g' j) (hf : ∀ j, j < coef.length → g' j = true → f j = f' j) :
    lagSum coef g f = lagSum coef g' f' := by
  rw [lagSum_eq_map, lagSum_eq_map, List.filter_congr fun j hj => hg j (List.mem_range.mp hj),
    List.map_congr_left fun j hj => by
      rw [hf j (List.mem_range.mp (List.mem_filter.mp hj).1) (List.mem_filter.mp hj).2]]

theorem lagSum_back (coef l : List Int) (t : Nat) :
    lagSum coef (fun j => decide (t > j)) (fun j => at' l (t - j - 1))
      = lags coef t (fun k => at' l (t - 1 - k)) :=
  lagSum_congr (fun _ _ => rfl) fun j _ _ => by rw [Nat.sub_right_comm]

theorem lags_congr {coef : List Int} {avail : Nat} {f g : Nat → Int}
    (h : ∀ k, k < coef.length → k < avail → f k = g k) : lags coef avail f = lags coef avail g :=
  lagSum_congr (fun _ _ => rfl) fun k hk ha => h k hk (of_decide_eq_true ha)

theorem lags_back_causal (coef : List Int) (t : Nat) {l₁ l₂ : List Int}
    (h : ∀ k, k < t → at' l₁ k = at' l₂ k) :
    lags coef t (fun k => at' l₁ (t - 1 - k)) = lags coef t (fun k => at' l₂ (t - 1 - k)) :=
  lags_congr fun k _ hk => h _ (by omega)

/-- the right sides inside `arOK`, `maOK`, `armaOK`, `arimaOK` -/
def arSpec (obs phis eps : List Int) (t : Nat) (out : List Int) : Int :=
  if t < obs.length then at' obs t else at' eps t + lags phis t (fun k => at' out (t - 1 - k))

def maSpec (c : Int) (thetas eps : List Int) (t : Nat) (_out : List Int) : Int :=
  c + at' eps t + lags thetas t (fun k => at' eps (t - 1 - k))

def armaSpec (obs phis thetas eps : List Int) (t : Nat) (out : List Int) : Int :=
  if t < obs.length then at' obs t
  else at' eps t + lags phis t (fun k => at' out (t - 1 - k)) + lags thetas t (fun k => at' eps (t - 1 - k))

def arimaSpec (c : Int) (phis thetas eps : List Int) (t : Nat) (out : List Int) : Int :=
  c + at' eps t + lags phis (t - 1) (fun k => at' out (t - 1 - k) - at' out (t - 2 - k))
    + lags thetas t (fun k => at' eps (t - 1 - k))

theorem arSpec_causal (obs phis eps : List Int) : Causal (arSpec obs phis eps) := fun t _ _ h => by
  unfold arSpec; rw [lags_back_causal phis t h]

theorem maSpec_causal (c : Int) (thetas eps : List Int) : Causal (maSpec c thetas eps) := fun _ _ _ _ => rfl

theorem armaSpec_causal (obs phis thetas eps : List Int) : Causal (armaSpec obs phis thetas eps) :=
  fun t _ _ h => by unfold armaSpec; rw [lags_back_causal phis t h]

theorem arimaSpec_causal (c : Int) (phis thetas eps : List Int) : Causal (arimaSpec c phis thetas eps) :=
  fun t l₁ l₂ h => by
    unfold arimaSpec
    rw [lags_congr (g := fun k => at' l₂ (t - 1 - k) - at' l₂ (t - 2 - k)) fun k _ hk => by
      rw [h (t - 1 - k) (by omega), h (t - 2 - k) (by omega)]]

/-- AR needs every coefficient lag to be covered by the observations (`arNormal` enforces `len(obs) = len(phis)`):
for `N = 2, obs = [], phis = [2,3], eps = [7]` the model reads `rst[0]` for the lag that reaches before the start
(`i - j - 1` truncates to 0) and `arOK` is `false` (the `example` below). -/
theorem arValue_eq (obs phis eps : List Int) (hlen : phis.length ≤ obs.length) (t : Nat) (l : List Int) :
    arValue obs phis eps t l = arSpec obs phis eps t l := by
  unfold arValue arSpec
  split
  · rfl
  · rw [← lagSum_back]
    exact congrArg _ (lagSum_congr (fun j hj => (decide_eq_true (by omega : t > j)).symm) fun _ _ _ => rfl)

theorem maValue_eq (c : Int) (thetas eps : List Int) (t : Nat) (l : List Int) :
    maValue c thetas eps t l = maSpec c thetas eps t l := by
  unfold maValue maSpec; rw [lagSum_back, Int.add_assoc]

theorem armaValue_eq (obs phis thetas eps : List Int) (t : Nat) (l : List Int) :
    armaValue obs phis thetas eps t l = armaSpec obs phis thetas eps t l := by
  unfold armaValue armaSpec; rw [lagSum_back, lagSum_back]

theorem arimaValue_eq (c : Int) (phis thetas eps : List Int) (t : Nat) (l : List Int) :
    arimaValue c phis thetas eps t l = arimaSpec c phis thetas eps t l := by
  unfold arimaValue arimaSpec
  rw [lagSum_back, show lagSum phis (fun j => decide (t > j + 1)) _ = lags phis (t - 1) _ from
    lagSum_congr (fun j _ => decide_eq_decide.mpr (by omega)) fun j _ _ => by
      rw [Nat.sub_right_comm t j 1, Nat.sub_right_comm t j 2]]

theorem arOK_iff (N : Nat) (obs phis eps : List Int) (hlen : phis.length ≤ obs.length) (out : List Int) :
    arOK N obs phis eps out = true ↔ out = ar N obs phis eps :=
  solves_iff_build (arSpec_causal obs phis eps) (arValue_eq obs phis eps hlen) out

theorem maOK_iff (N : Nat) (c : Int) (thetas eps out : List Int) :
    maOK N c thetas eps out = true ↔ out = ma N c thetas eps :=
  solves_iff_build (maSpec_causal c thetas eps) (maValue_eq c thetas eps) out

theorem armaOK_iff (N : Nat) (obs phis thetas eps out : List Int) :
    armaOK N obs phis thetas eps out = true ↔ out = arma N obs phis thetas eps :=
  solves_iff_build (armaSpec_causal obs phis thetas eps) (armaValue_eq obs phis thetas eps) out

theorem arimaOK_iff (N : Nat) (c : Int) (phis thetas eps out : List Int) :
    arimaOK N c phis thetas eps out = true ↔ out = arima N c phis thetas eps :=
  solves_iff_build (arimaSpec_causal c phis thetas eps) (arimaValue_eq c phis thetas eps) out

theorem C16_ar_le (N : Nat) (obs phis eps : List Int) (hlen : phis.length ≤ obs.length) :
    arOK N obs phis eps (ar N obs phis eps) = true :=
  (arOK_iff N obs phis eps hlen _).mpr rfl

theorem C16_ar (N : Nat) (obs phis eps : List Int) (hlen : obs.length = phis.length)
    (_hp : 1 ≤ phis.length) : arOK N obs phis eps (ar N obs phis eps) = true :=
  C16_ar_le N obs phis eps (by omega)

theorem C16_ma (N : Nat) (c : Int) (thetas eps : List Int) :
    maOK N c thetas eps (ma N c thetas eps) = true :=
  (maOK_iff N c thetas eps _).mpr rfl

theorem C16_arma (N : Nat) (obs phis thetas eps : List Int) :
    armaOK N obs phis thetas eps (arma N obs phis thetas eps) = true :=
  (armaOK_iff N obs phis thetas eps _).mpr rfl

theorem C16_arima (N : Nat) (c : Int) (phis thetas eps : List Int) :
    arimaOK N c phis thetas eps (arima N c phis thetas eps) = true :=
  (arimaOK_iff N c phis thetas eps _).mpr rfl

example : arOK 2 [] [2, 3] [7] (ar 2 [] [2, 3] [7]) = false := by decide

theorem C16_ar_unique (N : Nat) (obs phis eps : List Int) (hlen : obs.length = phis.length)
    (hp : 1 ≤ phis.length) (out : List Int) (h : arOK N obs phis eps out = true) :
    out = ar N obs phis eps :=
  (arOK_iff N obs phis eps (by omega) out).mp h

theorem C16_ar_unique_le (N : Nat) (obs phis eps : List Int) (hlen : phis.length ≤ obs.length)
    (out : List Int) (h : arOK N obs phis eps out = true) : out = ar N obs phis eps :=
  (arOK_iff N obs phis eps hlen out).mp h

theorem C16_ma_unique (N : Nat) (c : Int) (thetas eps : List Int) (out : List Int)
    (h : maOK N c thetas eps out = true) : out = ma N c thetas eps :=
  (maOK_iff N c thetas eps out).mp h

theorem C16_arma_unique (N : Nat) (obs phis thetas eps : List Int) (out : List Int)
    (h : armaOK N obs phis thetas eps out = true) : out = arma N obs phis thetas eps :=
  (armaOK_iff N obs phis thetas eps out).mp h

theorem C16_arima_unique (N : Nat) (c : Int) (phis thetas eps : List Int) (out : List Int)
    (h : arimaOK N c phis thetas eps out = true) : out = arima N c phis thetas eps :=
  (arimaOK_iff N c phis thetas eps out).mp h

theorem C16_ar_spec_unique (N : Nat) (obs phis eps out₁ out₂ : List Int)
    (h1 : arOK N obs phis eps out₁ = true) (h2 : arOK N obs phis eps out₂ = true) : out₁ = out₂ :=
  solves_unique (arSpec_causal obs phis eps) h1 h2

/-! ### zero spread: constant noise gives the deterministic recurrence -/

theorem C16_ar_const (N : Nat) (obs phis : List Int) (mu : Int) (hlen : obs.length = phis.length)
    (hp : 1 ≤ phis.length) :
    arOK N obs phis (List.replicate N mu) (ar N obs phis (List.replicate N mu)) = true :=
  C16_ar N obs phis _ hlen hp

theorem C16_ma_const (N : Nat) (c mu : Int) (thetas : List Int) :
    maOK N c thetas (List.replicate N mu) (ma N c thetas (List.replicate N mu)) = true :=
  C16_ma N c thetas _

theorem C16_arma_const (N : Nat) (obs phis thetas : List Int) (mu : Int) :
    armaOK N obs phis thetas (List.replicate N mu) (arma N obs phis thetas (List.replicate N mu)) = true :=
  C16_arma N obs phis thetas _

theorem C16_arima_const (N : Nat) (c mu : Int) (phis thetas : List Int) :
    arimaOK N c phis thetas (List.replicate N mu) (arima N c phis thetas (List.replicate N mu)) = true :=
  C16_arima N c phis thetas _

theorem zip_self (xs : List Int) :
    (xs.zip xs).filter (fun p => p.1 != p.2) = [] ∧
      (xs.zip xs).all (fun p => p.1 == p.2 || p.2 - p.1 == 1 || p.2 - p.1 == -1) = true := by
  induction xs with
  | nil => exact ⟨rfl, rfl⟩
  | cons x xs ih => simp [ih]

/-- `stepOK` asks for exactly one moving coordinate: an unchanged leading coordinate can be dropped, the moving one
(`stepOK_head`) needs the whole tail unchanged (`zip_self`) -/
theorem stepOK_cons_same (x : Int) (a b : List Int) : stepOK (x :: a) (x :: b) = stepOK a b := by
  simp [stepOK]

theorem stepOK_head (x d : Int) (xs : List Int) (hd : d = 1 ∨ d = -1) :
    stepOK (x :: xs) ((x + d) :: xs) = true := by
  have h0 : x ≠ x + d := by omega
  have h1 : x + d - x = d := by omega
  simp [stepOK, zip_self xs, h0, h1, hd]

theorem stepOK_modify (a : List Int) (i : Nat) (d : Int) (hd : d = 1 ∨ d = -1) (hi : i < a.length) :
    stepOK a (a.modify i (· + d)) = true := by
  induction a generalizing i with
  | nil => cases hi
  | cons x xs ih =>
    cases i with
    | zero => exact stepOK_head x d xs hd
    | succ i => rw [List.modify_succ_cons, stepOK_cons_same]; exact ih i (Nat.lt_of_succ_lt_succ hi)

theorem stepOK_walkStep (dim : Nat) (pos : List Int) (r : Nat) (hpos : pos.length = dim)
    (hr : r < 2 * dim) : stepOK pos (walkStep dim pos r) = true :=
  stepOK_modify pos (r % dim) _ (by split <;> simp) (hpos ▸ Nat.mod_lt _ (by omega))

/-- appending the next position to a path is a running fold: `List.scanl` -/
theorem foldl_snoc_eq_scanl {α β : Type} (f : α → β → α) (d : α) (bs : List β) (p : List α) (a : α) :
    bs.foldl (fun path b => path ++ [f (path.getLastD d) b]) (p ++ [a]) = p ++ List.scanl f a bs := by
  induction bs generalizing p a with
  | nil => rfl
  | cons b bs ih => rw [List.foldl_cons, List.getLastD_concat, ih, List.scanl_cons, List.append_assoc]; rfl

theorem walk_eq_scanl (dim : Nat) (rs : List Nat) :
    walk dim rs = List.scanl (walkStep dim) (List.replicate dim 0) rs :=
  foldl_snoc_eq_scanl (walkStep dim) _ rs [] _

theorem pathOK_cons (a : List Int) (l : List (List Int)) :
    pathOK (a :: l) = (l.head?.all (stepOK a) && pathOK l) := by
  cases l <;> rfl

theorem pathOK_scanl (dim : Nat) (rs : List Nat) (hr : ∀ r ∈ rs, r < 2 * dim) (a : List Int) (ha : a.length = dim) :
    pathOK (List.scanl (walkStep dim) a rs) = true := by
  induction rs generalizing a with
  | nil => rfl
  | cons r rs ih =>
    rw [List.scanl_cons, pathOK_cons, List.head?_scanl, Option.all_some,
      stepOK_walkStep dim a r ha (hr r List.mem_cons_self),
      ih (fun r' h' => hr r' (List.mem_cons_of_mem _ h')) _ (by rw [walkStep, List.length_modify, ha])]
    rfl

theorem C16_walk (dim : Nat) (_hd : 1 ≤ dim) (rs : List Nat) (hr : ∀ r ∈ rs, r < 2 * dim) :
    walkOK rs.length dim (walk dim rs) = true := by
  rw [walkOK, walk_eq_scanl, List.length_scanl, List.head?_scanl, pathOK_scanl dim rs hr _ (List.length_replicate ..),
    beq_self_eq_true, beq_self_eq_true]
  rfl

theorem C16_decode_range (dim r : Nat) (hr : r < 2 * dim) : r % dim < dim :=
  Nat.mod_lt _ (by omega)

theorem C16_decode_left_inv (dim r : Nat) (hr : r < 2 * dim) :
    r % dim + (if decide (r ≥ dim) then dim else 0) = r := by
  by_cases h : r ≥ dim
  · rw [Nat.mod_eq_sub_mod h, Nat.mod_eq_of_lt (by omega)]
    simp [h]
  · rw [Nat.mod_eq_of_lt (by omega)]
    simp [h]

theorem C16_decode_right_inv (dim axis : Nat) (up : Bool) (h : axis < dim) :
    axis + (if up then dim else 0) < 2 * dim ∧
      (axis + (if up then dim else 0)) % dim = axis ∧
      decide (axis + (if up then dim else 0) ≥ dim) = up := by
  cases up with
  | false =>
    refine ⟨by simp; omega, by simp [Nat.mod_eq_of_lt h], ?_⟩
    simp; omega
  | true =>
    refine ⟨by simp; omega, ?_, ?_⟩
    · simp [Nat.mod_eq_of_lt h]
    · simp

theorem C16_decode_injective (dim r s : Nat) (hr : r < 2 * dim) (hs : s < 2 * dim)
    (h : (r % dim, decide (r ≥ dim)) = (s % dim, decide (s ≥ dim))) : r = s := by
  rw [← C16_decode_left_inv dim r hr, ← C16_decode_left_inv dim s hs, (Prod.mk.inj h).1, (Prod.mk.inj h).2]

theorem C16_decode_surjective (dim axis : Nat) (up : Bool) (h : axis < dim) :
    ∃ r, r < 2 * dim ∧ (r % dim, decide (r ≥ dim)) = (axis, up) := by
  have := C16_decode_right_inv dim axis up h
  exact ⟨axis + (if up then dim else 0), this.1, by rw [this.2.1, this.2.2]⟩

end FF
