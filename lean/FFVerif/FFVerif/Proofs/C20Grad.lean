/-
C20 — `gradient` / `hessianMatrix` corollaries of `C20_exact_on_polynomials`: the partial derivative
computed along one coordinate is exact whenever the restriction of `f` to that coordinate is a
polynomial of degree < m; the nested 3-point central difference of a quadratic form returns the
exact Hessian `A + Aᵀ` at every point and for every non-zero step.
-/
import Mathlib.Algebra.BigOperators.Fin
import Mathlib.Algebra.BigOperators.Field
import Mathlib.LinearAlgebra.Matrix.Defs
import FFVerif.Proofs.C20
namespace FF
open Polynomial

/-- **C20, gradient clause.** `gradient` differentiates `t ↦ f (x with coordinate i := t)` at
`t = x i` with the univariate stencil; if that restriction is a polynomial of degree `< m` and the
weights meet the moment conditions for the first derivative, the stencil sum is `dx * p'(x i)`. -/
theorem C20_gradient_exact {d : ℕ} (m : ℕ) (w node : Fin m → ℝ)
    (hmom : ∀ j < m, ∑ k, w k * node k ^ j = if j = 1 then (1 : ℝ) else 0)
    (f : (Fin d → ℝ) → ℝ) (x : Fin d → ℝ) (i : Fin d)
    (p : ℝ[X]) (hp : p.natDegree < m)
    (hf : (fun t => f (Function.update x i t)) = fun t => p.eval t) (dx : ℝ) :
    ∑ k, w k * f (Function.update x i (x i + node k * dx)) = dx * (derivative p).eval (x i) := by
  have h := C20_exact_on_polynomials m 1 w node (by simpa only [Nat.factorial_one, Nat.cast_one] using hmom) p hp (x i) dx
  rw [pow_one, Function.iterate_one] at h
  rw [← h]
  exact Finset.sum_congr rfl fun k _ => by rw [congrFun hf]

/-- the difference quotient used by `gradient` with the default 3-point stencil -/
noncomputable def cd {d : ℕ} (f : (Fin d → ℝ) → ℝ) (i : Fin d) (dx : ℝ) (x : Fin d → ℝ) : ℝ :=
  (f (Function.update x i (x i + dx)) - f (Function.update x i (x i - dx))) / (2 * dx)

noncomputable def w3 : Fin 3 → ℝ := ![-1 / 2, 0, 1 / 2]
noncomputable def node3 : Fin 3 → ℝ := ![-1, 0, 1]

theorem w3_moments : ∀ j < 3, ∑ k, w3 k * node3 k ^ j = if j = 1 then (1 : ℝ) else 0 := by
  intro j hj
  simp only [Fin.sum_univ_three, w3, node3, Matrix.cons_val_zero, Matrix.cons_val_one, Matrix.cons_val_two, Matrix.head_cons,
    Matrix.tail_cons]
  obtain rfl | rfl | rfl : j = 0 ∨ j = 1 ∨ j = 2 := by omega
  all_goals norm_num

theorem cd_eq_stencil {d : ℕ} (f : (Fin d → ℝ) → ℝ) (i : Fin d) (dx : ℝ) (x : Fin d → ℝ) :
    cd f i dx x = (∑ k, w3 k * f (Function.update x i (x i + node3 k * dx))) / dx := by
  have e1 : x i + -1 * dx = x i - dx := by ring
  simp only [cd, Fin.sum_univ_three, w3, node3, Matrix.cons_val_zero, Matrix.cons_val_one, Matrix.cons_val_two,
    Matrix.head_cons, Matrix.tail_cons, e1, one_mul]
  ring

theorem C20_cd_exact {d : ℕ} (f : (Fin d → ℝ) → ℝ) (x : Fin d → ℝ) (i : Fin d)
    (p : ℝ[X]) (hp : p.natDegree < 3)
    (hf : (fun t => f (Function.update x i t)) = fun t => p.eval t) (dx : ℝ) (hdx : dx ≠ 0) :
    cd f i dx x = (derivative p).eval (x i) := by
  rw [cd_eq_stencil, C20_gradient_exact 3 w3 node3 w3_moments f x i p hp hf dx, mul_div_cancel_left₀ _ hdx]

section Hessian
variable {d : ℕ}

theorem cd_sum {ι : Type*} (s : Finset ι) (g : ι → (Fin d → ℝ) → ℝ) (i : Fin d) (dx : ℝ)
    (x : Fin d → ℝ) :
    cd (fun y => ∑ k ∈ s, g k y) i dx x = ∑ k ∈ s, cd (g k) i dx x := by
  simp only [cd, ← Finset.sum_sub_distrib, Finset.sum_div]

theorem cd_const_mul (c : ℝ) (g : (Fin d → ℝ) → ℝ) (i : Fin d) (dx : ℝ) (x : Fin d → ℝ) :
    cd (fun y => c * g y) i dx x = c * cd g i dx x := by
  simp only [cd]; ring

/-- moving coordinate `b` by `s` adds `s` times the `b`-th unit vector -/
theorem update_add_apply (x : Fin d → ℝ) (b : Fin d) (s : ℝ) (k : Fin d) :
    Function.update x b (x b + s) k = x k + s * (if k = b then 1 else 0) := by
  by_cases h : k = b
  · subst h; rw [Function.update_self, if_pos rfl, mul_one]
  · rw [Function.update_of_ne h, if_neg h, mul_zero, add_zero]

theorem cd_coord (j i : Fin d) (dx : ℝ) (hdx : dx ≠ 0) (x : Fin d → ℝ) :
    cd (fun y => y j) i dx x = if j = i then 1 else 0 := by
  rw [cd, sub_eq_add_neg (x i) dx, update_add_apply, update_add_apply, div_eq_iff (mul_ne_zero two_ne_zero hdx)]
  ring

/-- the `dx²` terms of the two products cancel, so the quotient is exact -/
theorem cd_mul_coord (i j b : Fin d) (dx : ℝ) (hdx : dx ≠ 0) (x : Fin d → ℝ) :
    cd (fun y => y i * y j) b dx x
      = (if i = b then 1 else 0) * x j + x i * (if j = b then 1 else 0) := by
  rw [cd, sub_eq_add_neg (x b) dx, div_eq_iff (mul_ne_zero two_ne_zero hdx)]
  simp only [update_add_apply]
  ring

theorem cd_quadratic (A : Matrix (Fin d) (Fin d) ℝ) (dx : ℝ) (hdx : dx ≠ 0) (b : Fin d)
    (x : Fin d → ℝ) :
    cd (fun y => ∑ i, ∑ j, A i j * y i * y j) b dx x = ∑ j, (A b j + A j b) * x j := by
  -- `cd` is linear, on the monomials `y i * y j` it is `cd_mul_coord`, and the indicator sums collapse
  simp only [mul_assoc, cd_sum, cd_const_mul, cd_mul_coord _ _ _ _ hdx, mul_add, Finset.sum_add_distrib, ite_mul, mul_ite,
    one_mul, mul_one, zero_mul, mul_zero, Finset.sum_ite_eq', Finset.mem_univ, if_true, add_mul]
  rw [Finset.sum_comm]
  simp only [Finset.sum_ite_eq', Finset.mem_univ, if_true]

/-- **C20, Hessian clause.** For `f x = Σ A i j x i x j` the nested 3-point central difference
(`hessianMatrix`: gradient of each gradient component) is the exact Hessian entry `A a b + A b a`,
at every point and for every non-zero step. -/
theorem C20_hessian_quadratic (A : Matrix (Fin d) (Fin d) ℝ) (dx : ℝ) (hdx : dx ≠ 0)
    (a b : Fin d) (x : Fin d → ℝ) :
    cd (cd (fun y => ∑ i, ∑ j, A i j * y i * y j) b dx) a dx x = A a b + A b a := by
  rw [funext (cd_quadratic A dx hdx b), cd_sum]
  simp only [cd_const_mul, cd_coord _ _ _ hdx, mul_ite, mul_one, mul_zero, Finset.sum_ite_eq', Finset.mem_univ, if_true]
  exact add_comm _ _

end Hessian
end FF
