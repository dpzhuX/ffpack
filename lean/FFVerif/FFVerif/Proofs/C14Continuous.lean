/-
C14 — detailed balance on a general (continuous) state space, in integral form.

State space `X` with a σ-finite reference measure `μ` (Lebesgue measure on `ℝⁿ` for the samplers);
target density `π`, symmetric proposal density `q`, domain `D`.  One step of the plain sampler moves from
`x` to a proposed `y` with probability `min 1 (π y / π x)` if `y` is in the domain (rule theorems in
Proofs/C14.lean), so the density of the MOVE part of the transition kernel with respect to `μ` is
`k x y = q x y * min 1 (π y / π x) * [D y]`; the rest of the mass stays at `x`, on the diagonal, which is
symmetric by itself.  `C14c_detailed_balance`: in stationarity the chain moves from `A` to `B` as often as from
`B` to `A`, for all sets `A`, `B`.
-/
import Mathlib.MeasureTheory.Measure.Prod
import Mathlib.MeasureTheory.Integral.Bochner.Set
import FFVerif.Proofs.C14Balance
namespace FF
open MeasureTheory

section continuous
variable {X : Type*} [MeasurableSpace X]

/-- probability flow density from `x` to `y`: target restricted to the domain at `x`, times the move kernel -/
noncomputable def flow (π : X → ℝ) (q : X → X → ℝ) (D : X → Prop) [DecidablePred D] (x y : X) : ℝ :=
  (π x * if D x then 1 else 0) * (q x y * min 1 (π y / π x) * if D y then 1 else 0)

omit [MeasurableSpace X] in
theorem C14c_flow_symm (π : X → ℝ) (q : X → X → ℝ) (D : X → Prop) [DecidablePred D]
    (hq : ∀ x y, q x y = q y x) (hπ : ∀ x, D x → 0 < π x) (x y : X) :
    flow π q D x y = flow π q D y x := by
  unfold flow
  by_cases hx : D x
  · by_cases hy : D y
    · simp only [if_pos hx, if_pos hy, mul_one]
      exact accept_flow_symm (hq x y) (hπ x hx) (hπ y hy)
    · simp only [if_neg hy, mul_zero, zero_mul]
  · simp only [if_neg hx, mul_zero, zero_mul]

/-- both sides are the same integral after the change of variables `(x, y) ↦ (y, x)`, so no integrability
hypothesis is needed -/
theorem setIntegral_prod_symm (μ : Measure X) [SFinite μ] (F : X → X → ℝ) (hF : ∀ x y, F x y = F y x) (A B : Set X) :
    ∫ z in A ×ˢ B, F z.1 z.2 ∂(μ.prod μ) = ∫ z in B ×ˢ A, F z.1 z.2 ∂(μ.prod μ) := by
  rw [← (Measure.measurePreserving_swap (μ := μ) (ν := μ)).setIntegral_preimage_emb
    MeasurableEquiv.prodComm.measurableEmbedding (fun z => F z.1 z.2) (B ×ˢ A), Set.preimage_swap_prod]
  exact congrArg _ (funext fun z => hF z.1 z.2)

theorem C14c_detailed_balance (μ : Measure X) [SFinite μ] (π : X → ℝ) (q : X → X → ℝ) (D : X → Prop) [DecidablePred D]
    (hq : ∀ x y, q x y = q y x) (hπ : ∀ x, D x → 0 < π x) (A B : Set X) :
    ∫ z in A ×ˢ B, flow π q D z.1 z.2 ∂(μ.prod μ) = ∫ z in B ×ˢ A, flow π q D z.1 z.2 ∂(μ.prod μ) :=
  setIntegral_prod_symm μ (flow π q D) (C14c_flow_symm π q D hq hπ) A B

end continuous

/-- non-vacuity: the hypotheses are met by the standard normal shape on `ℝ` restricted to `[0, ∞)` with a
constant proposal density -/
example : (∀ x y : ℝ, (fun _ _ : ℝ => (1 : ℝ)) x y = (fun _ _ : ℝ => (1 : ℝ)) y x) ∧
    (∀ x : ℝ, (0 ≤ x) → 0 < Real.exp (-(x ^ 2) / 2)) := ⟨fun _ _ => rfl, fun _ _ => Real.exp_pos _⟩

end FF
