/-
C20 — the EXECUTABLE model of `gramSchmidOrth` (`Model/Gram.lean`, what the driver runs column by column
against the implementation) is, at the reals, the abstract two-loop Gram–Schmidt of `Proofs/C20Gram.lean`
in `EuclideanSpace ℝ (Fin n)` (`toE`, `C20m_mgs_toE`); the property theorems therefore hold for the executable model.
-/
import Mathlib.Analysis.InnerProductSpace.PiL2
import FFVerif.Proofs.C20Gram
import FFVerif.Lemmas.LinalgReal
import FFVerif.Model.Gram
namespace FF.Gram
open FF.Linalg Finset
open scoped RealInnerProductSpace

/-- a model vector as a point of Euclidean space (its first `n` entries) -/
noncomputable def toE (n : Nat) (v : Vec ℝ) : EuclideanSpace ℝ (Fin n) := WithLp.toLp 2 (fun i : Fin n => v i)

theorem inner_toE (n : Nat) (a b : Vec ℝ) : ⟪toE n a, toE n b⟫ = dot n a b := by
  unfold toE
  rw [EuclideanSpace.inner_toLp_toLp, star_trivial, dot_real, dotProduct, ← Fin.sum_univ_eq_sum_range (fun i => a i * b i) n]
  exact Finset.sum_congr rfl (fun i _ => mul_comm _ _)

theorem norm_toE (n : Nat) (a : Vec ℝ) : ‖toE n a‖ = norm n a := by
  rw [norm_eq_sqrt_real_inner, inner_toE]; rfl

theorem toE_vsub_smul (n : Nat) (c b : Vec ℝ) (k : ℝ) : toE n (vsub c (smul k b)) = toE n c - k • toE n b := by
  unfold toE vsub smul
  ext i
  simp

theorem toE_div (n : Nat) (p : Vec ℝ) (r : ℝ) : toE n (fun i => p i / r) = r⁻¹ • toE n p := by
  unfold toE
  ext i
  simp [div_eq_inv_mul]

theorem project_real (n : Nat) (bs : List (Vec ℝ)) (c : Vec ℝ) :
    toE n (project n bs c) = mgsProject (bs.map (toE n)) (toE n c) := by
  unfold project mgsProject
  rw [List.foldl_map]
  exact (List.foldl_hom (toE n) fun c b => by rw [toE_vsub_smul, inner_toE, inner_toE]).symm

theorem mgs_snoc (n : Nat) (vs : List (Vec ℝ)) (v : Vec ℝ) :
    mgs n (vs ++ [v]) = mgs n vs ++ [fun i => project n (mgs n vs) v i / norm n (project n (mgs n vs) v)] := by
  unfold mgs
  rw [List.foldl_append]
  simp only [List.foldl_cons, List.foldl_nil, ofArr_mkArr]

/-- **the bridge**: the executable loops are the abstract loops -/
theorem C20m_mgs_toE (n : Nat) (vs : List (Vec ℝ)) : (mgs n vs).map (toE n) = FF.mgs (vs.map (toE n)) := by
  induction vs using List.reverseRecOn with
  | nil => rfl
  | append_singleton vs v ih =>
    rw [mgs_snoc, List.map_append, List.map_append, List.map_singleton, List.map_singleton, FF.mgs_snoc, ← ih, toE_div,
      ← norm_toE, project_real]

theorem mgs_length (n : Nat) (vs : List (Vec ℝ)) : (mgs n vs).length = vs.length := by
  have := congrArg List.length (C20m_mgs_toE n vs)
  rwa [List.length_map, length_mgs, List.length_map] at this

/-- **orthonormal output** of the executable model on linearly independent columns -/
theorem C20m_orthonormal (n : Nat) (vs : List (Vec ℝ))
    (hli : LinearIndependent ℝ (fun i : Fin (vs.map (toE n)).length => (vs.map (toE n)).get i))
    (i j : Nat) (hi : i < (mgs n vs).length) (hj : j < (mgs n vs).length) :
    dot n (mgs n vs)[i] (mgs n vs)[j] = if i = j then 1 else 0 := by
  have h : OrthoList ((mgs n vs).map (toE n)) := C20m_mgs_toE n vs ▸ mgs_orthoList _ hli
  rw [← inner_toE, ← h.inner_getElem i j (by rwa [List.length_map]) (by rwa [List.length_map]), List.getElem_map,
    List.getElem_map]

/-- the first output column is the normalised first column handed to the loops -/
theorem C20m_first (n : Nat) (v : Vec ℝ) (rest : List (Vec ℝ)) (h : 0 < (mgs n (v :: rest)).length) (i : Nat) (hi : i < n) :
    (mgs n (v :: rest))[0] i = v i / norm n v := by
  have hf := C20_gramSchmidt_first (toE n v) (rest.map (toE n))
  rw [← List.map_cons, ← C20m_mgs_toE, List.head?_map, List.head?_eq_getElem?, List.getElem?_eq_getElem h, Option.map_some,
    Option.some.injEq, norm_toE] at hf
  have := congrArg (fun x : EuclideanSpace ℝ (Fin n) => x ⟨i, hi⟩) hf
  simpa only [toE, PiLp.smul_apply, smul_eq_mul, ← div_eq_inv_mul] using this

/-- no column coincides with the alignment vector: the loops get `alignVec` and the columns `1 ..` -/
theorem C20m_arrange_none (n : Nat) (cols : List (Vec ℝ)) (al : Vec ℝ)
    (h : ∀ i, i < cols.length → 1 ≤ i → coincides n al (cols.getD i (fun _ => zero)) = false) :
    arrange n cols al = al :: cols.tail := by
  unfold arrange
  have : (List.range cols.length).filter (fun i => 1 ≤ i ∧ coincides n al (cols.getD i (fun _ => zero))) = [] :=
    List.filter_eq_nil_iff.mpr fun i hi => by
      simpa only [decide_eq_true_eq, not_and, Bool.not_eq_true] using h i (List.mem_range.mp hi)
  simp only [this]
  rfl

/-- non-vacuity: the columns `(1,0)`, `(1,1)` are linearly independent, so the theorem applies to them -/
example : LinearIndependent ℝ (fun i : Fin ([fun k => if k = 0 then (1 : ℝ) else 0, fun _ => (1 : ℝ)].map (toE 2)).length =>
    ([fun k => if k = 0 then (1 : ℝ) else 0, fun _ => (1 : ℝ)].map (toE 2)).get i) := by
  -- neither is the second vector zero nor the first a multiple of it: compare coordinates
  refine linearIndependent_fin2.mpr ⟨fun h => ?_, fun a h => ?_⟩
  · exact one_ne_zero (congrFun (congrArg WithLp.ofLp h) 0)
  · have h0 : a * 1 = 1 := congrFun (congrArg WithLp.ofLp h) 0
    have h1 : a * 1 = 0 := congrFun (congrArg WithLp.ofLp h) 1
    exact zero_ne_one (h1.symm.trans h0)

end FF.Gram
