/-
C04 — the six clause statements of Proofs/C04.lean as theorems.  Core Lean only.
-/
import FFVerif.Proofs.C04
import FFVerif.Proofs.C03Reverse
import FFVerif.Lemmas.FourPointSim
import FFVerif.Lemmas.Cut
namespace FF
open C04

/-- on a non-constant history closed at a global extreme the forward pass of range-pair counting ends
with a single point, so the backward pass adds nothing, and it has counted, range by range, what
rainflow counts -/
theorem closed_forward (h : List Int) (hcl : closedAtExtreme h = true) (hc : isConstant h = false) :
    rangePair h = (rpForward [] (pv true h) []).2 ∧
      ∀ k, unitsAt (rainflow h) k = unitsAt (rangePair h) k := by
  obtain ⟨x, hh, hl, hext⟩ := (closedAtExtreme_iff h).mp hcl
  obtain ⟨R', hpv⟩ := List.head?_eq_some_iff.mp ((pv_head? h).trans hh)
  have hsub : ∀ v ∈ R', v ∈ h := fun v hv => (pv_sublist true h).subset (hpv ▸ List.mem_cons_of_mem _ hv)
  obtain ⟨up, hb⟩ : ∃ up, ∀ v ∈ R', bd up x v :=
    hext.elim (fun e => ⟨true, fun v hv => e ▸ le_listMax (hsub v hv)⟩)
      fun e => ⟨false, fun v hv => e ▸ listMin_le (hsub v hv)⟩
  obtain ⟨c1, c2⟩ := closed_units up x R' (hpv ▸ pv_zig h hc) hb (by rw [← hpv, pv_getLast?, hl])
  have e : rangePair h = (rpForward [] (pv true h) []).2 := by
    show (rpBack (rpForward [] (pv true h) []).1 _).2 = _
    rw [hpv, c1, rpBack_short _ _ (by simp)]
  exact ⟨e, fun k => by rw [e, rainflow_eq_astm, hpv, c2 k]⟩

/-- (a), first half: on a non-constant history closed at a global extreme rainflow and range-pair
counting give the same table -/
theorem C04_agree_rangePair (h : List Int) (hcl : closedAtExtreme h = true)
    (hc : isConstant h = false) : table (rainflow h) = table (rangePair h) :=
  table_eq_of_unitsAt _ _ (closed_forward h hcl hc).2

/-- (a), second half, histories closed at the global maximum: the repeating-history count is
literally the range-pair count -/
theorem C04_agree_repeat_max (h : List Int) (hcl : closedAtExtreme h = true)
    (hc : isConstant h = false) (hmax : h.head? = some (listMax h)) :
    rainflowRepeat h = rangePair h := by
  obtain ⟨t, ht⟩ := List.head?_eq_some_iff.mp hmax
  have := repeat_from_max _ t fun v hv => le_listMax (ht ▸ List.mem_cons_of_mem _ hv)
  rw [← ht] at this
  rw [this, (closed_forward h hcl hc).1]

/-- a constant history has at most two reversals: four-point counting extracts nothing, rainflow counts the
half cycles of what is there -/
theorem const_counts (h : List Int) (hc : isConstant h = true) :
    fourPointFull h = (pv true h, []) ∧ rainflow h = halves (pv true h) := by
  have h1 := pv_const_length h hc
  exact ⟨fpGo_short _ (by omega) [], implGo_short [] _ true [] h1⟩

/-- (f) every rainflow whole cycle is also counted by range-pair counting, already by its forward pass -/
theorem C04_contains : C04.ContainsStatement := by
  intro h k
  obtain ⟨extra, he⟩ := rpBack_extends (rpForward [] (pv true h) []).1 (rpForward [] (pv true h) []).2
  have e1 : rangePair h = (rpForward [] (pv true h) []).2 ++ extra := he
  rw [e1, unitsAt_append]
  by_cases hc : isConstant h = true
  · rw [(const_counts h hc).2, wholes_halves]
    exact Nat.zero_le _
  · have hc' : isConstant h = false := by simpa using hc
    have := wholes_le_forward (pv true h) (pv_zig h hc') (pv_ne_nil hc') k
    rw [rainflow_eq_astm]
    omega

/-- (d) four-point cycles + half cycles of the residue = rainflow -/
theorem C04_residue : C04.ResidueStatement := by
  intro h
  by_cases hc : isConstant h = true
  · obtain ⟨e1, e2⟩ := const_counts h hc
    rw [fourPoint, e1, e2]
    rfl
  · exact (rainflow_eq_fourPoint_residue h (by simpa using hc)).symm

/-- (b) four-point = rainflow minus the closing max–min cycle -/
theorem C04_fourPoint : C04.FourPointStatement := by
  intro h hcl hc
  have r := fourPoint_red h hc
  obtain ⟨e, y, eN, _, hey⟩ := closed_residue h hcl hc r
  have hs : rng (listMax h) (listMin h) = span h := by
    have := nonconst_min_lt_max h hc
    unfold rng span; omega
  have hr : rng e y = span h := by
    rcases hey with ⟨rfl, rfl⟩ | ⟨rfl, rfl⟩
    · rw [rng_comm, hs]
    · exact hs
  rw [tblAdd_eq]
  apply table_ext _ _ (accAdd_sorted _ _ _ (table_sorted _)) (table_sorted _)
    (accAdd_pos (by omega) (table_pos _)) (table_pos _)
  intro k
  rw [cnt_accAdd, cnt_table, cnt_table, rainflow_red h hc r k, eN, unitsAt_halves3, hr]

/-- a sequence closed at its minimum `m`, rotated to its first maximum: the forward pass over the rotated
sequence counts, range by range, what the three-point procedure counts on the sequence itself -/
theorem rotated_units (R : List Int) (m : Int) (hz : Zig R) (hh : R.head? = some m) (hl : R.getLast? = some m)
    (hb : ∀ y ∈ R, m ≤ y) {y : Int} (hy : y ∈ R) (hlt : m < y) :
    Zig (rotated R) ∧ ∀ k, T R k = unitsAt (rpForward [] (rotated R) []).2 k := by
  obtain ⟨A, M, Q', rfl, erot, hub⟩ := argmax_split R (List.ne_nil_of_mem hy)
  have hlt : m < M := Int.lt_of_lt_of_le hlt (hub y hy)
  -- the sequence is `m … M … m`: neither end is the maximum
  rcases A with _ | ⟨a, A'⟩
  · have : M = m := by simpa using hh
    omega
  obtain rfl : m = a := by simpa using hh.symm
  rcases List.eq_nil_or_concat Q' with rfl | ⟨Q'', b, rfl⟩
  · have : M = m := by simpa [List.getLast?_cons] using hl
    omega
  obtain rfl : m = b := by simpa [List.getLast?_cons] using hl.symm
  have eR : m :: A' ++ M :: Q''.concat m = m :: (A' ++ M :: (Q'' ++ [m])) := by simp
  have erot : rotated (m :: (A' ++ M :: (Q'' ++ [m]))) = M :: (Q'' ++ m :: (A' ++ [M])) := by
    rw [← eR, erot]; simp
  rw [eR] at hz hb hub ⊢
  obtain ⟨hzrot, hT⟩ := T_rotate m M A' Q'' hz fun y hy => ⟨hb y hy, hub y hy⟩
  obtain ⟨_, c2⟩ := closed_units true M (Q'' ++ m :: (A' ++ [M])) hzrot
    (fun x hx => hub x (rotated_mem _ x (erot ▸ List.mem_cons_of_mem _ hx)))
    (List.getLast?_eq_some_iff.mpr ⟨M :: (Q'' ++ m :: A'), by simp⟩)
  rw [erot]
  exact ⟨hzrot, fun k => by rw [hT k, ← c2 k, astm_T _ hzrot]⟩

/-- histories closed at the global minimum: the rotation to the maximum does not change the table -/
theorem C04_agree_repeat_min (h : List Int) (hcl : closedAtExtreme h = true)
    (hc : isConstant h = false) (hmin : h.head? = some (listMin h)) :
    table (rainflow h) = table (rainflowRepeat h) := by
  obtain ⟨x, hh, hl, _⟩ := (closedAtExtreme_iff h).mp hcl
  have hzR := pv_zig h hc
  obtain ⟨hzrot, hT⟩ := rotated_units (pv true h) (listMin h) hzR (by rw [pv_head?, hmin])
    (by rw [pv_getLast?, hl, ← hh, hmin]) (fun y hy => listMin_le ((pv_sublist true h).subset hy))
    ((pv_true_extremes h).1 ▸ listMax_mem _ (pv_ne_nil hc)) (nonconst_min_lt_max h hc)
  refine table_eq_of_unitsAt _ _ fun k => ?_
  rw [rainflow_eq_astm, astm_T _ hzR, hT k]
  unfold rainflowRepeat
  rw [rotateToMax_eq, pv_of_zig _ hzrot]

/-- (a) on a non-constant history closed at a global extreme rainflow, range-pair and the
repeating-history count give the same table -/
theorem C04_agree : C04.AgreeStatement := by
  intro h hcl hc
  refine ⟨C04_agree_rangePair h hcl hc, ?_⟩
  obtain ⟨x, hh, _, hx⟩ := (closedAtExtreme_iff h).mp hcl
  rcases hx with hx | hx
  · rw [C04_agree_repeat_max _ hcl hc (hx ▸ hh)]
    exact C04_agree_rangePair _ hcl hc
  · exact C04_agree_repeat_min _ hcl hc (hx ▸ hh)

/-- (e) without ties four-point counting extracts exactly the rainflow whole cycles -/
theorem C04_noTie : C04.NoTieStatement := by
  intro h hnt
  by_cases hc : isConstant h = true
  · obtain ⟨e1, e2⟩ := const_counts h hc
    rw [fourPoint, e1, e2, wholes_halves]
  · have hc' : isConstant h = false := by simpa using hc
    have ht : rfTie [] (reversals h) true = false := by
      unfold noTies at hnt
      simp only [Bool.and_eq_true, Bool.not_eq_true'] at hnt
      exact hnt.1
    obtain ⟨cs, N, r, e⟩ := rf_wholes [] (pv true h) true [] (pv_zig h hc') (Dec_short _ (by simp; omega)) rfl
      (by rw [pv_true_eq_reversals]; exact ht)
    rw [show rainflow h = implGo [] (pv true h) true [] from rfl, e]
    exact table_eq_of_unitsAt _ _ ((fourPoint_red h hc').confluent r).2

/-- (c) the repeating-history count ignores where the period is cut -/
theorem C04_cut : C04.CutStatement := by
  intro b k x y hx hy
  refine table_eq_of_unitsAt _ _ fun n => ?_
  have := cut_units (b.take k) (b.drop k) x y (by rw [List.take_append_drop]; exact hx) hy n
  rwa [List.take_append_drop] at this

end FF
