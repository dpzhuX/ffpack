/-
C18 (areas) — the area under each translated spectrum equals its documented variance.
-/
import Mathlib.MeasureTheory.Integral.IntegralEqImproper
import Mathlib.Analysis.SpecialFunctions.Gaussian.GaussianIntegral
import Mathlib.Analysis.SpecialFunctions.Pow.Deriv
import Mathlib.Analysis.SpecialFunctions.Pow.Asymptotics
import FFVerif.Proofs.C18
namespace FF
open Gen
open MeasureTheory Set Filter Topology

/-- an area over the positive axis from a known one, the integrands agreeing there up to a constant factor -/
theorem integral_Ioi_eq_const_mul {f g : ℝ → ℝ} {c I : ℝ} (hg : ∫ x in Ioi (0:ℝ), g x = I)
    (h : ∀ x, 0 < x → f x = c * g x) : ∫ x in Ioi (0:ℝ), f x = c * I := by
  rw [← hg, ← integral_const_mul]; exact setIntegral_congr_fun measurableSet_Ioi h

/-- by the substitution `y = w^(-4)` -/
theorem area_rpow_exp (A a μ : ℝ) (ha : 0 < a) (hμ : 0 < μ) :
    ∫ w in Ioi (0:ℝ), A / w ^ (4 * μ + 1) * Real.exp (-(a / w ^ 4)) = A * (Real.Gamma μ / (4 * a ^ μ)) := by
  have h1 := integral_comp_rpow_Ioi (fun y : ℝ => y ^ (μ - 1) * Real.exp (-(a * y)))
    (p := (-4 : ℝ)) (by norm_num)
  rw [Real.integral_rpow_mul_exp_neg_mul_Ioi hμ ha] at h1
  -- the right-hand side is `A / 4` times the Gamma integral `h1`; then the integrands agree pointwise
  rw [show A * (Real.Gamma μ / (4 * a ^ μ)) = A / 4 * ((1 / a) ^ μ * Real.Gamma μ) by
    rw [Real.div_rpow zero_le_one ha.le, Real.one_rpow]; ring]
  refine integral_Ioi_eq_const_mul h1 (fun x hx0 => ?_)
  have e2 : (x ^ (4 * μ + 1))⁻¹ = x ^ ((-4 : ℝ) - 1) * x ^ ((-4 : ℝ) * (μ - 1)) := by
    rw [← Real.rpow_neg hx0.le, ← Real.rpow_add hx0]; congr 1; ring
  simp only [smul_eq_mul]
  rw [← Real.rpow_mul hx0.le, div_eq_mul_inv A, e2, abs_neg, Nat.abs_ofNat, Real.rpow_neg_ofNat, zpow_neg, zpow_ofNat,
    ← div_eq_mul_inv a]
  ring

theorem integrableOn_rpow_exp (A a μ : ℝ) (ha : 0 < a) (hμ : 0 < μ) :
    IntegrableOn (fun w : ℝ => A / w ^ (4 * μ + 1) * Real.exp (-(a / w ^ 4))) (Ioi 0) := by
  rcases eq_or_ne A 0 with rfl | hA
  · simp only [zero_div, zero_mul]; exact integrableOn_zero
  -- an integral that is not zero is that of an integrable function
  · apply Integrable.of_integral_ne_zero
    rw [area_rpow_exp A a μ ha hμ]
    exact mul_ne_zero hA (div_pos (Real.Gamma_pos_of_pos hμ) (mul_pos four_pos (Real.rpow_pos_of_pos ha μ))).ne'

theorem area_bretschneider (A B : ℝ) (hB : 0 < B) : ∫ w in Ioi (0:ℝ), bretschneider A B w = A / (4 * B) := by
  have h := area_rpow_exp A B 1 hB one_pos
  rw [Real.Gamma_one, Real.rpow_one, mul_one_div, show (4 * (1:ℝ) + 1) = ((5 : ℕ) : ℝ) by norm_num] at h
  simpa only [bretschneider, Real.rpow_natCast] using h

theorem C18_area_issc (wp Hs : ℝ) (hwp : 0 < wp) :
    ∫ w in Ioi (0:ℝ), isscSpectrum w wp Hs = Hs ^ 2 / 16 := by
  simp only [issc_eq_bretschneider]
  rw [area_bretschneider _ _ (mul_pos (by norm_num) (pow_pos hwp 4)), ← mul_assoc 4,
    mul_div_mul_right _ _ (pow_pos hwp 4).ne']
  ring

theorem C18_area_pm (Uw al be g : ℝ) (hU : 0 < Uw) (hal : 0 ≤ al) (hbe : 0 < be) (hg : 0 < g) :
    ∫ w in Ioi (0:ℝ), piersonMoskowitzSpectrum w Uw al be g = al * g ^ 2 / (4 * be) * (Uw / g) ^ 4 := by
  simp only [pm_eq_bretschneider]
  rw [area_bretschneider _ _ (mul_pos hbe (pow_pos (div_pos hg hU) 4)), ← mul_assoc, ← div_div,
    div_eq_mul_inv _ ((g / Uw) ^ 4), ← inv_pow, inv_div]

theorem C18_area_gaussian (wp Hs sg : ℝ) (hsg : 0 < sg) :
    ∫ w : ℝ, gaussianSwellSpectrum w wp Hs sg = Hs ^ 2 / 16 := by
  have e2 : (2 * Real.pi) ^ (3 / 2 : ℝ) = 2 * Real.pi * Real.sqrt (2 * Real.pi) := by
    rw [show (3 / 2 : ℝ) = 1 + 1 / 2 by norm_num, Real.rpow_add (by positivity), Real.rpow_one,
      Real.sqrt_eq_rpow]
  simp only [gaussian_closed]
  -- translate by `wp` and scale by `2π σ`: the standard Gaussian integral `√(2π)` is left
  rw [e2, integral_const_mul,
    integral_sub_right_eq_self (fun x : ℝ => Real.exp (-((x / (2 * Real.pi * sg)) ^ 2 / 2))) wp,
    Measure.integral_comp_div (fun x : ℝ => Real.exp (-(x ^ 2 / 2)))]
  simp only [div_eq_inv_mul _ (2:ℝ), ← neg_mul]
  rw [integral_gaussian, div_inv_eq_mul, mul_comm Real.pi, abs_of_pos (by positivity), smul_eq_mul,
    div_mul_eq_mul_div, div_eq_div_iff (by positivity) (by norm_num)]
  ring

/-- the primitive is `-(1 + u)^(-p) / p` -/
theorem integral_deriv_div_rpow (u u' : ℝ → ℝ) (p : ℝ) (hp : 0 < p)
    (hu : ∀ x, 0 ≤ x → HasDerivAt u (u' x) x) (h0 : u 0 = 0) (hpos : ∀ x, 0 ≤ x → 0 ≤ u x)
    (hu' : ∀ x, 0 < x → 0 ≤ u' x) (hlim : Tendsto u atTop atTop) :
    ∫ x in Ioi (0:ℝ), u' x / (1 + u x) ^ (p + 1) = 1 / p := by
  have key := integral_Ioi_of_hasDerivAt_of_nonneg' (a := (0:ℝ))
    (g := fun x : ℝ => -p⁻¹ * (1 + u x) ^ (-p))
    (g' := fun x : ℝ => u' x / (1 + u x) ^ (p + 1)) (l := 0) ?_ ?_ ?_
  · rw [key, h0, add_zero, Real.one_rpow, mul_one, zero_sub, neg_neg, one_div]
  · intro x hx
    have hpos1 : 0 < 1 + u x := add_pos_of_pos_of_nonneg one_pos (hpos x hx)
    refine ((((hu x hx).const_add 1).rpow_const (p := -p) (Or.inl hpos1.ne')).const_mul
      (-p⁻¹)).congr_deriv ?_
    rw [show -p - 1 = -(p + 1) by ring, Real.rpow_neg hpos1.le, div_eq_mul_inv, mul_comm (u' x) (-p),
      mul_assoc, ← mul_assoc, neg_mul_neg, inv_mul_cancel₀ hp.ne', one_mul]
  · exact fun x hx => div_nonneg (hu' x hx) (Real.rpow_nonneg (add_nonneg zero_le_one (hpos x hx.le)) _)
  · exact mul_zero (-p⁻¹) ▸ ((tendsto_rpow_neg_atTop hp).comp (tendsto_atTop_add_const_left _ 1 hlim)).const_mul (-p⁻¹)

/-- the scales drop out of the area of a dimensional form: substitute `x = f L / U` -/
theorem area_dim (R : ℝ → ℝ) (L U K : ℝ) (hL : 0 < L) (hU : 0 < U) :
    ∫ f in Ioi (0:ℝ), R (f * L / U) * K / f = K * ∫ x in Ioi (0:ℝ), R x / x := by
  have hc : 0 < L / U := div_pos hL hU
  have h := integral_comp_mul_right_Ioi (fun x => R x / x) 0 hc
  rw [zero_mul, smul_eq_mul, eq_comm, inv_mul_eq_iff_eq_mul₀ hc.ne'] at h
  rw [h, ← mul_assoc]
  refine integral_Ioi_eq_const_mul rfl (fun f hf => ?_)
  simp only [mul_div_assoc]
  rw [mul_assoc K, ← mul_div_assoc (L / U), mul_comm (L / U), mul_div_mul_right _ _ hc.ne', mul_comm K,
    div_mul_eq_mul_div, mul_div_assoc]

theorem area_reduced_kaimal (a b : ℝ) (hb : 0 < b) :
    ∫ x in Ioi (0:ℝ), kaimal a b x / x = 3 * a / (2 * b) := by
  have h := integral_deriv_div_rpow (fun x => b * x) (fun _ => b) (2 / 3) (by norm_num)
    (fun _ _ => hasDerivAt_const_mul b) (mul_zero b)
    (fun x hx => by positivity) (fun _ _ => hb.le) (tendsto_id.const_mul_atTop hb)
  rw [show 3 * a / (2 * b) = a / b * (1 / (2 / 3)) by ring]
  refine integral_Ioi_eq_const_mul h (fun x hx => ?_)
  rw [kaimal, div_right_comm, mul_div_cancel_right₀ _ hx.ne', div_mul_div_cancel₀ hb.ne',
    show (2 / 3 + 1 : ℝ) = 5 / 3 by norm_num]

theorem area_reduced_davenport : ∫ x in Ioi (0:ℝ), davenport x / x = 6 := by
  have h := integral_deriv_div_rpow (fun x => x ^ 2) (fun x => 2 * x) (1 / 3) (by norm_num)
    (fun x _ => by simpa using hasDerivAt_pow 2 x) (by norm_num)
    (fun x _ => by positivity) (fun x hx => by positivity) (tendsto_pow_atTop two_ne_zero)
  rw [← show (2:ℝ) * (1 / (1 / 3)) = 6 by norm_num]
  refine integral_Ioi_eq_const_mul h (fun x hx => ?_)
  rw [davenport, div_right_comm, mul_div_cancel_right₀ _ hx.ne', ← pow_two, ← mul_div_assoc, ← mul_assoc,
    show (2 : ℝ) * 2 = 4 by norm_num, show (1 / 3 : ℝ) + 1 = 4 / 3 by norm_num]

/-- both standards have `3 a = 2 b` -/
theorem area_kaimal (a b L v s : ℝ) (hab : 3 * a = 2 * b) (hb : 0 < b) (hL : 0 < L) (hv : 0 < v) :
    ∫ f in Ioi (0:ℝ), kaimal a b (f * L / v) * s * s / f = s ^ 2 := by
  simp only [mul_assoc (kaimal _ _ _)]
  rw [area_dim _ L v _ hL hv, area_reduced_kaimal a b hb, hab, div_self (by positivity), mul_one, pow_two]

theorem C18_area_iec1 (v s z : ℝ) (hv : 0 < v) (hz : 0 < z) :
    ∫ f in Ioi (0:ℝ), iecDim1 f v s z = (1 * s) ^ 2 := by
  simp only [iecDim1_eq]; exact area_kaimal 4 6 _ v _ (by norm_num) (by norm_num) (mul_pos (by norm_num) (iecLambda_pos z hz)) hv

theorem C18_area_iec2 (v s z : ℝ) (hv : 0 < v) (hz : 0 < z) :
    ∫ f in Ioi (0:ℝ), iecDim2 f v s z = (8 / 10 * s) ^ 2 := by
  simp only [iecDim2_eq]; exact area_kaimal 4 6 _ v _ (by norm_num) (by norm_num) (mul_pos (by norm_num) (iecLambda_pos z hz)) hv

theorem C18_area_iec3 (v s z : ℝ) (hv : 0 < v) (hz : 0 < z) :
    ∫ f in Ioi (0:ℝ), iecDim3 f v s z = (5 / 10 * s) ^ 2 := by
  simp only [iecDim3_eq]; exact area_kaimal 4 6 _ v _ (by norm_num) (by norm_num) (mul_pos (by norm_num) (iecLambda_pos z hz)) hv

theorem area_ec1 (L uz s : ℝ) (hL : 0 < L) (hu : 0 < uz) :
    ∫ n in Ioi (0:ℝ), kaimal (68 / 10) (102 / 10) (n * L / uz) * s * s / n = s ^ 2 :=
  area_kaimal _ _ L uz s (by norm_num) (by norm_num) hL hu

theorem C18_area_ec1_0 (uz s z : ℝ) (hu : 0 < uz) (hz : 0 < z) :
    ∫ n in Ioi (0:ℝ), ec1Dim0 n uz s z = s ^ 2 := by
  simp only [ec1Dim0_eq]; exact area_ec1 _ uz s (ec1Lz_pos _ _ hz) hu

theorem C18_area_ec1_1 (uz s z : ℝ) (hu : 0 < uz) (hz : 0 < z) :
    ∫ n in Ioi (0:ℝ), ec1Dim1 n uz s z = s ^ 2 := by
  simp only [ec1Dim1_eq]; exact area_ec1 _ uz s (ec1Lz_pos _ _ hz) hu

theorem C18_area_ec1_2 (uz s z : ℝ) (hu : 0 < uz) (hz : 0 < z) :
    ∫ n in Ioi (0:ℝ), ec1Dim2 n uz s z = s ^ 2 := by
  simp only [ec1Dim2_eq]; exact area_ec1 _ uz s (ec1Lz_pos _ _ hz) hu

theorem C18_area_ec1_3 (uz s z : ℝ) (hu : 0 < uz) (hz : 0 < z) :
    ∫ n in Ioi (0:ℝ), ec1Dim3 n uz s z = s ^ 2 := by
  simp only [ec1Dim3_eq]; exact area_ec1 _ uz s (ec1Lz_pos _ _ hz) hu

theorem C18_area_ec1_4 (uz s z : ℝ) (hu : 0 < uz) (hz : 0 < z) :
    ∫ n in Ioi (0:ℝ), ec1Dim4 n uz s z = s ^ 2 := by
  simp only [ec1Dim4_eq]; exact area_ec1 _ uz s (ec1Lz_pos _ _ hz) hu

theorem C18_area_davenport_drag (d k : ℝ) (hd : 0 < d) (hk : 0 ≤ k) :
    ∫ n in Ioi (0:ℝ), davenportDragDim n d k = 6 * k * d ^ 2 := by
  simp only [davenportDragDim_eq, mul_assoc (davenport _)]
  rw [area_dim _ 1200 d _ (by norm_num) hd, area_reduced_davenport]; ring

theorem C18_area_davenport_rough (uz z z0 : ℝ) (hu : 0 < uz) :
    ∫ n in Ioi (0:ℝ), davenportRoughDim n uz z z0 = 6 * (4 / 10 * uz / Real.log (z / z0)) ^ 2 := by
  simp only [davenportRoughDim_eq, mul_assoc (davenport _)]
  rw [area_dim _ 1200 uz _ (by norm_num) hu, area_reduced_davenport]; ring

/-- `Hs² / 4` before the common factor 1/4 of `ochiHubbleSpectrum` -/
theorem area_ochiTerm (wp Hs l : ℝ) (hwp : 0 < wp) (hl : 0 < l) :
    IntegrableOn (fun w => ochiTerm w wp Hs l) (Ioi 0) ∧ ∫ w in Ioi (0:ℝ), ochiTerm w wp Hs l = Hs ^ 2 / 4 := by
  have ha : 0 < (4 * l + 1) / 4 * wp ^ 4 := by positivity
  -- the term is `C / w^(4λ+1) · exp (-a / w⁴)` with `a = (4λ+1)/4 ωp⁴` and `C = a^λ / Γ(λ) · Hs²`
  simp only [ochiTerm, div_mul_cancel₀ _ (four_ne_zero' ℝ), neg_mul, div_pow, ← mul_div_assoc, neg_div]
  generalize (4 * l + 1) / 4 * wp ^ 4 = a at ha
  refine ⟨integrableOn_rpow_exp _ a l ha hl, ?_⟩
  rw [area_rpow_exp _ a l ha hl]
  have hg := (Real.Gamma_pos_of_pos hl).ne'
  have hr := (Real.rpow_pos_of_pos ha l).ne'
  field_simp

theorem C18_area_ochiHubble (wp1 wp2 Hs1 Hs2 l1 l2 : ℝ) (h1 : 0 < wp1) (h2 : 0 < wp2)
    (hl1 : 0 < l1) (hl2 : 0 < l2) :
    ∫ w in Ioi (0:ℝ), ochiHubbleSpectrum w wp1 wp2 Hs1 Hs2 l1 l2 = (Hs1 ^ 2 + Hs2 ^ 2) / 16 := by
  obtain ⟨i1, a1⟩ := area_ochiTerm wp1 Hs1 l1 h1 hl1
  obtain ⟨i2, a2⟩ := area_ochiTerm wp2 Hs2 l2 h2 hl2
  simp only [ochiHubble_closed]
  rw [integral_div, integral_add i1 i2, a1, a2]; ring

end FF
