/-
C06 — Rychlik's theorem (`C06.RainflowEqStatement`): for a history closed at its global minimum
the Rychlik count and the rainflow count have the same table, equal-height peaks included.
Both histograms are "cycles of a maximal four-point extraction sequence + contribution of the
four-point residue" (Lemmas/ConflRF.lean, Lemmas/RyStep.lean); for such a history the residue is
`[m, M, m]`, which both counters count as one unit of the overall range.
-/
import FFVerif.Proofs.C03Reverse
import FFVerif.Lemmas.ClosedNormal
import FFVerif.Props.C04
namespace FF
open C06

/-- the statement of the last clause of C06 (Rychlik's theorem, ties included) -/
def C06.RainflowEqStatement : Prop :=
  ∀ h : List Int, closedAtMin h = true → isConstant h = false → table (rychlik h) = table (rainflow h)

theorem closedAtMin_spec {h : List Int} (hm : closedAtMin h = true) :
    h.head? = some (listMin h) ∧ C04.closedAtExtreme h = true := by
  cases h with
  | nil => cases hm
  | cons x t =>
    simp only [closedAtMin, C04.closedAtExtreme, Bool.and_eq_true, Bool.or_eq_true, beq_iff_eq] at hm ⊢
    exact ⟨congrArg some hm.2, hm.1, Or.inr hm.2⟩

/-- C06, last clause: Rychlik's theorem, ties included -/
theorem C06_rainflow_eq : C06.RainflowEqStatement := by
  intro h hm hc
  obtain ⟨hmin, hcl⟩ := closedAtMin_spec hm
  refine table_eq_of_unitsAt _ _ (fun k => ?_)
  obtain ⟨cs, N, r⟩ := Red.exists (pv true h)
  obtain ⟨m, x, rfl, hh, hx⟩ := closed_residue h hcl hc r
  have hlt : m < x := by
    have := nonconst_min_lt_max h hc
    have : m = listMin h := Option.some.inj (hh.symm.trans hmin)
    omega
  have e1 : peaksGo ryF [] [m, x, m] = [⟨m, x, false⟩] := by
    rw [peaksGo_cons, peaksGo_cons, peaksGo_cons, peaksGo_nil, ryEmit_nil_left, ryEmit_nil_right,
      ryEmit_left [] [] hlt (Int.le_refl m) (sm_eq_head hlt fun _ h => nomatch h)]
    rfl
  rw [rychlik_red h hc r, rainflow_red h hc r, e1, unitsAt_halves3, unitsAt_single]
  rfl

theorem C06_rychlik_eq_rainflow (h : List Int) (hm : closedAtMin h = true) (hc : isConstant h = false) :
    table (rychlik h) = table (rainflow h) := C06_rainflow_eq h hm hc

end FF
