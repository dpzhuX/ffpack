/-
C17 — the Welch estimate (what `welchSpectrum` delegates to: `scipy.signal.welch( data, fs, nperseg )` with its defaults:
segments of length `L` every `step` samples, the mean of each segment removed, a window `w`, density scaling
`1 / ( fs · Σ w² )`, interior bins doubled, average over the segments), as a mathematical object.
-/
import FFVerif.Proofs.C17
namespace FF
open Finset

/-- segment `s` of length `L` starting at `s · step`, mean removed, window applied -/
noncomputable def welchSeg (L step : ℕ) (w x : ℕ → ℝ) (s : ℕ) : ℕ → ℝ :=
  fun k => w k * (x (s * step + k) - mean L (fun j => x (s * step + j)))

noncomputable def welch (fs : ℝ) (L step nseg : ℕ) (w x : ℕ → ℝ) (p : ℕ) : ℝ :=
  (if p = 0 ∨ 2 * p = L then 1 else 2) *
    ((∑ s ∈ range nseg, ‖dft L (welchSeg L step w x s) p‖ ^ 2) / nseg) / (fs * ∑ k ∈ range L, w k ^ 2)

noncomputable def welchArea (fs : ℝ) (L step nseg : ℕ) (w x : ℕ → ℝ) : ℝ :=
  ∑ p ∈ range (L / 2 + 1), welch fs L step nseg w x p * (fs / L)

theorem welchSeg_eq (L step : ℕ) (w x : ℕ → ℝ) (s : ℕ) :
    welchSeg L step w x s = fun k => w k * demean L (fun j => x (s * step + j)) k := rfl

theorem welchSeg_smul (L step : ℕ) (w x : ℕ → ℝ) (c : ℝ) (s : ℕ) :
    welchSeg L step w (fun k => c * x k) s = fun k => c * welchSeg L step w x s k := by
  simp only [welchSeg_eq, demean_smul, mul_left_comm]

theorem C17w_scaling (fs : ℝ) (L step nseg : ℕ) (w x : ℕ → ℝ) (c : ℝ) (p : ℕ) :
    welch fs L step nseg w (fun k => c * x k) p = c ^ 2 * welch fs L step nseg w x p := by
  simp only [welch, welchSeg_smul, norm_sq_dft_smul, ← Finset.mul_sum]
  ring

theorem C17w_scaling_area (fs : ℝ) (L step nseg : ℕ) (w x : ℕ → ℝ) (c : ℝ) :
    welchArea fs L step nseg w (fun k => c * x k) = c ^ 2 * welchArea fs L step nseg w x := by
  simp only [welchArea, C17w_scaling, Finset.mul_sum, mul_assoc]

theorem C17w_area_fs_invariance (fs fs' : ℝ) (hfs : fs ≠ 0) (hfs' : fs' ≠ 0) (L step nseg : ℕ) (w x : ℕ → ℝ) :
    welchArea fs L step nseg w x = welchArea fs' L step nseg w x := by
  simp only [welchArea, welch, density_mul_binwidth hfs, density_mul_binwidth hfs']

/-- also for a window that is identically zero: division by zero gives `0` -/
theorem C17w_nonneg (fs : ℝ) (hfs : 0 < fs) (L step nseg : ℕ) (w x : ℕ → ℝ) (p : ℕ) : 0 ≤ welch fs L step nseg w x p :=
  div_nonneg (mul_nonneg (ite_nonneg zero_le_one zero_le_two)
      (div_nonneg (Finset.sum_nonneg fun _ _ => sq_nonneg _) (Nat.cast_nonneg _)))
    (mul_nonneg hfs.le (Finset.sum_nonneg fun _ _ => sq_nonneg _))

/-- non-vacuity: with one segment, a rectangular window and `step = 0` the Welch estimate is the one-sided density `psd1` -/
example (fs : ℝ) (n : ℕ) (x : ℕ → ℝ) (p : ℕ) : welch fs n 0 1 (fun _ => 1) x p = psd1 fs n x p := by
  simp only [welch, psd1, welchSeg_eq, zero_mul, zero_add, one_mul, Finset.sum_range_one, Nat.cast_one, div_one,
    one_pow, Finset.sum_const, card_range, nsmul_eq_mul, mul_one]

end FF
