/-
C10 — theorems about the EXECUTABLE model of `hlrfFORM` / `mvalFOSM` (`Model/Form.lean`, the definitions
the driver runs iterate by iterate against the implementation), at the reals.

Two facts about the new point `-β · w / ‖w‖` carry the general part: its norm is `|β|`, and it solves the linearised equation, so
that a step shorter than `tol` leaves `|g| < tol · ‖∇G‖`.  The loop is unchanged when `g` is multiplied by a positive constant.
For a linear limit state of normal variables with any correlation the loop body is constant, hence the loop returns for every
`iter ≥ 1`, `tol > 0` with the exact `β = E[g] / sd[g]`, which for `L = 1` is what `mvalFOSM` computes.
-/
import FFVerif.Lemmas.LinalgReal
import FFVerif.Model.Form
namespace FF.Form
open FF.Linalg FF.Nataf Finset

/-- the loop body, with the stored vectors read back -/
theorem step_real (T : Model ℝ) (g : Vec ℝ → ℝ) (dg : Vec ℝ → Vec ℝ) (u : Vec ℝ) :
    step T g dg u =
      { u := fun i => -((g (getX T u) - dot T.dim u (gradU T (getX T u) (dg (getX T u)))) /
                norm T.dim (gradU T (getX T u) (dg (getX T u)))) *
              (gradU T (getX T u) (dg (getX T u)) i / norm T.dim (gradU T (getX T u) (dg (getX T u)))),
        beta := (g (getX T u) - dot T.dim u (gradU T (getX T u) (dg (getX T u)))) /
                norm T.dim (gradU T (getX T u) (dg (getX T u))) } := by
  unfold step
  simp only [ofArr_mkArr]

theorem fosm_eq (n : Nat) (g : Vec ℝ → ℝ) (dg : Vec ℝ → Vec ℝ) (mus sigmas : Vec ℝ) :
    fosm n g dg mus sigmas = g mus / norm n (fun i => dg mus i * sigmas i) := rfl

theorem loop_succ (T : Model ℝ) (g : Vec ℝ → ℝ) (dg : Vec ℝ → Vec ℝ) (tol : ℝ) (fuel done : Nat) (u : Vec ℝ) :
    loop T g dg tol (fuel + 1) done u =
      if Transc.ltb (norm T.dim (vsub (step T g dg u).u u)) tol then .converged (done + 1) (step T g dg u)
      else if fuel = 0 then .exhausted (step T g dg u) else loop T g dg tol fuel (done + 1) (step T g dg u).u := rfl

theorem norm_smul_div (n : Nat) (b : ℝ) (w : Vec ℝ) (hw : norm n w ≠ 0) :
    norm n (fun i => -b * (w i / norm n w)) = |b| := by
  rw [show (fun i => -b * (w i / norm n w)) = fun i => -b / norm n w * w i from funext fun i => by ring,
    Linalg.norm_smul, abs_div, abs_neg, abs_of_pos (norm_pos hw), div_mul_cancel₀ _ hw]

theorem dot_smul_div (n : Nat) (b : ℝ) (w : Vec ℝ) (hw : norm n w ≠ 0) :
    dot n (fun i => -b * (w i / norm n w)) w = -b * norm n w := by
  rw [show (fun i => -b * (w i / norm n w)) = fun i => -b / norm n w * w i from funext fun i => by ring,
    dot_smul_left, ← norm_sq, ← mul_assoc, div_mul_cancel₀ _ hw]

theorem C10m_step_norm (T : Model ℝ) (g : Vec ℝ → ℝ) (dg : Vec ℝ → Vec ℝ) (u : Vec ℝ)
    (hg : norm T.dim (gradU T (getX T u) (dg (getX T u))) ≠ 0) :
    norm T.dim (step T g dg u).u = |(step T g dg u).beta| := by
  rw [step_real]
  exact norm_smul_div T.dim _ _ hg

/-- the new point solves the linearised equation `G( u ) + ⟨u_new - u, ∇G( u )⟩ = 0` -/
theorem C10m_residual (T : Model ℝ) (g : Vec ℝ → ℝ) (dg : Vec ℝ → Vec ℝ) (u : Vec ℝ)
    (hg : norm T.dim (gradU T (getX T u) (dg (getX T u))) ≠ 0) :
    g (getX T u) = dot T.dim (vsub u (step T g dg u).u) (gradU T (getX T u) (dg (getX T u))) := by
  rw [step_real, dot_vsub_left, dot_smul_div _ _ _ hg, neg_mul, div_mul_cancel₀ _ hg]
  ring

theorem C10m_residual_bound (T : Model ℝ) (g : Vec ℝ → ℝ) (dg : Vec ℝ → Vec ℝ) (u : Vec ℝ) (tol : ℝ)
    (hg : norm T.dim (gradU T (getX T u) (dg (getX T u))) ≠ 0)
    (hconv : norm T.dim (vsub (step T g dg u).u u) < tol) :
    |g (getX T u)| < tol * norm T.dim (gradU T (getX T u) (dg (getX T u))) := by
  rw [C10m_residual T g dg u hg]
  refine (abs_dot_le _ _ _).trans_lt (mul_lt_mul_of_pos_right ?_ (norm_pos hg))
  rwa [norm_vsub_comm]

theorem gradU_smul (T : Model ℝ) (x a : Vec ℝ) (k : ℝ) :
    gradU T x (fun i => k * a i) = fun j => k * gradU T x a j := by
  funext j
  simp only [gradU, tmulVec_real, Finset.mul_sum]
  exact Finset.sum_congr rfl (fun i _ => by ring)

theorem C10m_scale_step (T : Model ℝ) (g : Vec ℝ → ℝ) (dg : Vec ℝ → Vec ℝ) (k : ℝ) (hk : 0 < k) (u : Vec ℝ) :
    step T (fun x => k * g x) (fun x i => k * dg x i) u = step T g dg u := by
  rw [step_real, step_real]
  simp only [gradU_smul, Linalg.norm_smul, dot_smul_right, abs_of_pos hk, ← mul_sub, mul_div_mul_left _ _ hk.ne']

theorem C10m_scale_loop (T : Model ℝ) (g : Vec ℝ → ℝ) (dg : Vec ℝ → Vec ℝ) (k : ℝ) (hk : 0 < k) (tol : ℝ) :
    ∀ fuel done u, loop T (fun x => k * g x) (fun x i => k * dg x i) tol fuel done u = loop T g dg tol fuel done u := by
  intro fuel
  induction fuel with
  | zero => intro done u; rfl
  | succ f ih =>
    intro done u
    rw [loop_succ, loop_succ, C10m_scale_step T g dg k hk u, ih]

theorem C10m_scale_hlrf (T : Model ℝ) (g : Vec ℝ → ℝ) (dg : Vec ℝ → Vec ℝ) (k : ℝ) (hk : 0 < k) (tol : ℝ) (iter : Nat) :
    hlrf T (fun x => k * g x) (fun x i => k * dg x i) tol iter = hlrf T g dg tol iter := by
  unfold hlrf
  rw [C10m_scale_loop T g dg k hk tol]

/-- every outcome of the loop is one HL-RF step from some iterate; a `converged` outcome passed the tolerance test -/
theorem loop_outcome (T : Model ℝ) (g : Vec ℝ → ℝ) (dg : Vec ℝ → Vec ℝ) (tol : ℝ) :
    ∀ fuel done u, 0 < fuel →
      (∀ steps it, loop T g dg tol fuel done u = .converged steps it →
        ∃ uprev, it = step T g dg uprev ∧ norm T.dim (vsub (step T g dg uprev).u uprev) < tol) ∧
      (∀ it, loop T g dg tol fuel done u = .exhausted it → ∃ uprev, it = step T g dg uprev) := by
  intro fuel done u
  -- the four branches of `loop`: no fuel; the test passes; it fails on the last pass; it fails and the loop goes on
  fun_induction loop T g dg tol fuel done u with
  | case1 => exact fun h => absurd h (Nat.lt_irrefl 0)
  | case2 fuel done u it hc =>
    exact fun _ => ⟨fun _ _ h => ⟨u, (Outcome.converged.inj h).2.symm, (ltb_real _ _).mp hc⟩, fun _ h => (nomatch h)⟩
  | case3 done u it hc =>
    exact fun _ => ⟨fun _ _ h => (nomatch h), fun _ h => ⟨u, (Outcome.exhausted.inj h).symm⟩⟩
  | case4 fuel done u it hc hf ih => exact fun _ => ih (Nat.pos_of_ne_zero hf)

/-- **whenever the model of `hlrfFORM` returns**: the returned `( β, u*, x* )` is one HL-RF step from some iterate `u`, so
`x*` is the Nataf image of `u*`, `‖u*‖ = |β|` (when the gradient there does not vanish), and - unless `iter = 1`, where no
convergence is expected - the step was shorter than `tol`, hence `|g( T(u) )| < tol · ‖∇G‖` at the last evaluation point -/
theorem C10m_hlrf_return (T : Model ℝ) (g : Vec ℝ → ℝ) (dg : Vec ℝ → Vec ℝ) (tol : ℝ) (iter : Nat) (hiter : 1 ≤ iter)
    (beta : ℝ) (ustar xstar : Vec ℝ) (h : hlrf T g dg tol iter = some (beta, ustar, xstar)) :
    ∃ u, beta = (step T g dg u).beta ∧ ustar = (step T g dg u).u ∧ xstar = getX T ustar ∧
      (norm T.dim (gradU T (getX T u) (dg (getX T u))) ≠ 0 → norm T.dim ustar = |beta|) ∧
      (iter ≠ 1 → norm T.dim (vsub ustar u) < tol ∧
        (norm T.dim (gradU T (getX T u) (dg (getX T u))) ≠ 0 →
          |g (getX T u)| < tol * norm T.dim (gradU T (getX T u) (dg (getX T u))))) := by
  -- the returned triple comes from one step, which passed the tolerance test unless `iter = 1`
  have key : ∃ u, (beta, ustar, xstar) = ((step T g dg u).beta, (step T g dg u).u, getX T (step T g dg u).u) ∧
      (iter ≠ 1 → norm T.dim (vsub (step T g dg u).u u) < tol) := by
    unfold hlrf at h
    obtain ⟨hconv, hexh⟩ := loop_outcome T g dg tol iter 0 (fun _ => one) hiter
    cases hl : loop T g dg tol iter 0 (fun _ => one) with
    | converged steps it =>
      rw [hl] at h
      obtain ⟨u, rfl, ht⟩ := hconv steps it hl
      exact ⟨u, (Option.some.inj h).symm, fun _ => ht⟩
    | exhausted it =>
      rw [hl] at h
      obtain ⟨u, rfl⟩ := hexh it hl
      by_cases h1 : iter = 1
      · exact ⟨u, (Option.some.inj ((if_pos h1).symm.trans h)).symm, fun hne => absurd h1 hne⟩
      · exact nomatch (if_neg h1).symm.trans h
  obtain ⟨u, heq, ht⟩ := key
  rw [Prod.mk.injEq, Prod.mk.injEq] at heq
  obtain ⟨rfl, rfl, rfl⟩ := heq
  exact ⟨u, rfl, rfl, rfl, C10m_step_norm T g dg u,
    fun h1 => ⟨ht h1, fun hg => C10m_residual_bound T g dg u tol hg (ht h1)⟩⟩

/-- if the loop body maps every point to the same iterate, that iterate is returned: at the first pass if the start
happens to be within `tol`, otherwise at the second, where the step has length `0 < tol` -/
theorem hlrf_of_step_const (T : Model ℝ) (g : Vec ℝ → ℝ) (dg : Vec ℝ → Vec ℝ) (it : Iterate ℝ)
    (hstep : ∀ u, step T g dg u = it) (tol : ℝ) (htol : 0 < tol) (iter : Nat) (hiter : 1 ≤ iter) :
    hlrf T g dg tol iter = some (it.beta, it.u, getX T it.u) := by
  have h2 : Transc.ltb (norm T.dim (vsub it.u it.u)) tol = true := by
    rw [ltb_real, show vsub it.u it.u = fun i => 0 * it.u i from funext fun i => (sub_self _).trans (zero_mul _).symm,
      Linalg.norm_smul, abs_zero, zero_mul]
    exact htol
  obtain ⟨f, rfl⟩ := Nat.exists_eq_succ_of_ne_zero (Nat.pos_iff_ne_zero.mp hiter)
  unfold hlrf
  rw [loop_succ, hstep]
  by_cases h1 : Transc.ltb (norm T.dim (vsub it.u (fun _ => (one : ℝ)))) tol = true
  · rw [if_pos h1]
  · rw [if_neg h1]
    by_cases hf : f = 0
    · rw [if_pos hf, hf]
      rfl
    · obtain ⟨f', rfl⟩ := Nat.exists_eq_succ_of_ne_zero hf
      rw [if_neg hf, loop_succ, hstep, if_pos h2]

def AllNormal (T : Model ℝ) (mu sigma : Vec ℝ) : Prop := ∀ i, i < T.dim → T.marg i = .normal (mu i) (sigma i)

/-- `w = Lᵀ D c`, the U-space gradient of a linear limit state -/
noncomputable def wOf (T : Model ℝ) (sigma c : Vec ℝ) : Vec ℝ := tmulVec T.dim T.L (fun i => sigma i * c i)

theorem gradU_normal (T : Model ℝ) (mu sigma : Vec ℝ) (h : AllNormal T mu sigma) (x c : Vec ℝ) :
    gradU T x c = wOf T sigma c := by
  funext j
  simp only [gradU, wOf, tmulVec_real]
  refine Finset.sum_congr rfl (fun i hi => ?_)
  rw [h i (Finset.mem_range.mp hi)]
  rfl

theorem getX_normal (T : Model ℝ) (u : Vec ℝ) (i : Nat) (mu sigma : ℝ) (h : T.marg i = .normal mu sigma) :
    getX T u i = mu + sigma * mulVec T.dim T.L u i := by
  rw [getX, h]; rfl

theorem affine_in_U (T : Model ℝ) (mu sigma : Vec ℝ) (h : AllNormal T mu sigma) (c : Vec ℝ) (d : ℝ) (u : Vec ℝ) :
    d + dot T.dim c (getX T u) = (d + dot T.dim c mu) + dot T.dim u (wOf T sigma c) := by
  rw [wOf, dot_tmulVec, add_assoc, dot_real, dot_real, dot_real, ← Finset.sum_add_distrib]
  refine congrArg _ (Finset.sum_congr rfl fun i hi => ?_)
  rw [getX_normal T u i _ _ (h i (Finset.mem_range.mp hi))]
  ring

noncomputable def betaStar (T : Model ℝ) (mu sigma c : Vec ℝ) (d : ℝ) : ℝ :=
  (d + dot T.dim c mu) / norm T.dim (wOf T sigma c)

noncomputable def uStar (T : Model ℝ) (mu sigma c : Vec ℝ) (d : ℝ) : Vec ℝ :=
  fun i => -betaStar T mu sigma c d * (wOf T sigma c i / norm T.dim (wOf T sigma c))

theorem C10m_affine_step (T : Model ℝ) (mu sigma : Vec ℝ) (h : AllNormal T mu sigma) (c : Vec ℝ) (d : ℝ) (u : Vec ℝ) :
    step T (fun x => d + dot T.dim c x) (fun _ => c) u
      = { u := uStar T mu sigma c d, beta := betaStar T mu sigma c d } := by
  rw [step_real]
  simp only [gradU_normal T mu sigma h, affine_in_U T mu sigma h c d u, add_sub_cancel_right]
  rfl

theorem C10m_affine_hlrf (T : Model ℝ) (mu sigma : Vec ℝ) (h : AllNormal T mu sigma) (c : Vec ℝ) (d : ℝ)
    (tol : ℝ) (htol : 0 < tol) (iter : Nat) (hiter : 1 ≤ iter) :
    hlrf T (fun x => d + dot T.dim c x) (fun _ => c) tol iter
      = some (betaStar T mu sigma c d, uStar T mu sigma c d, getX T (uStar T mu sigma c d)) :=
  hlrf_of_step_const T _ _ _ (C10m_affine_step T mu sigma h c d) tol htol iter hiter

theorem C10m_affine_on_limit_state (T : Model ℝ) (mu sigma : Vec ℝ) (h : AllNormal T mu sigma) (c : Vec ℝ) (d : ℝ)
    (hw : norm T.dim (wOf T sigma c) ≠ 0) :
    d + dot T.dim c (getX T (uStar T mu sigma c d)) = 0 := by
  have hu : dot T.dim (uStar T mu sigma c d) (wOf T sigma c) = -betaStar T mu sigma c d * norm T.dim (wOf T sigma c) :=
    dot_smul_div _ _ _ hw
  rw [affine_in_U T mu sigma h c d, hu, betaStar, neg_mul, div_mul_cancel₀ _ hw, add_neg_cancel]

theorem C10m_affine_variance (T : Model ℝ) (sigma c : Vec ℝ) (rho : Mat ℝ)
    (hL : ∀ i j, i < T.dim → j < T.dim → ∑ k ∈ range T.dim, T.L i k * T.L j k = rho i j) :
    norm T.dim (wOf T sigma c) * norm T.dim (wOf T sigma c)
      = ∑ i ∈ range T.dim, ∑ j ∈ range T.dim, (sigma i * c i) * rho i j * (sigma j * c j) := by
  rw [norm_sq, dot_real]
  simp only [wOf, tmulVec_real, Finset.sum_mul, Finset.mul_sum]
  rw [Finset.sum_comm]
  refine Finset.sum_congr rfl (fun i hi => ?_)
  rw [Finset.sum_comm]
  refine Finset.sum_congr rfl (fun j hj => ?_)
  rw [← hL i j (Finset.mem_range.mp hi) (Finset.mem_range.mp hj), Finset.mul_sum, Finset.sum_mul]
  exact Finset.sum_congr rfl (fun k _ => by ring)

theorem C10m_fosm_agrees (T : Model ℝ) (mu sigma c : Vec ℝ) (d : ℝ)
    (hI : ∀ i j, i < T.dim → j < T.dim → T.L i j = if i = j then 1 else 0) :
    fosm T.dim (fun x => d + dot T.dim c x) (fun _ => c) mu sigma = betaStar T mu sigma c d := by
  rw [fosm_eq, betaStar]
  congr 1
  refine norm_congr fun j hj => ?_
  rw [wOf, tmulVec_one _ _ hI _ j hj, mul_comm]

/-- agreement with `coptFORM` (minimise `‖u‖` subject to `G(u) = 0`) on linear-Gaussian problems: no feasible point of the
affine limit state `G(u) = b + ⟨u, w⟩` is closer to the origin than `uStar`, whose distance is `|betaStar|` -/
theorem C10m_affine_copt (T : Model ℝ) (mu sigma c : Vec ℝ) (d : ℝ) (hw : norm T.dim (wOf T sigma c) ≠ 0) (u : Vec ℝ)
    (hfeas : (d + dot T.dim c mu) + dot T.dim u (wOf T sigma c) = 0) :
    |betaStar T mu sigma c d| ≤ norm T.dim u ∧ norm T.dim (uStar T mu sigma c d) = |betaStar T mu sigma c d| := by
  refine ⟨?_, norm_smul_div T.dim _ _ hw⟩
  rw [betaStar, eq_neg_of_add_eq_zero_left hfeas, abs_div, abs_neg, abs_of_pos (norm_pos hw), div_le_iff₀ (norm_pos hw)]
  exact abs_dot_le _ _ _

/-- non-vacuity: two independent standard normal variables, `g = 3 - x₀ - x₁`: the loop returns `β = 3/√2` -/
example : ∃ T : Model ℝ, AllNormal T (fun _ => 0) (fun _ => 1) ∧ T.dim = 2 ∧
    betaStar T (fun _ => 0) (fun _ => 1) (fun _ => -1) 3 = 3 / Real.sqrt 2 := by
  refine ⟨{ dim := 2, marg := fun _ => .normal 0 1, L := fun i j => if i = j then 1 else 0,
            Linv := fun i j => if i = j then 1 else 0 }, fun _ _ => rfl, rfl, ?_⟩
  simp only [betaStar, dot_real, norm_real, wOf, tmulVec_real, Finset.sum_range_succ, Finset.sum_range_zero]
  norm_num

end FF.Form
