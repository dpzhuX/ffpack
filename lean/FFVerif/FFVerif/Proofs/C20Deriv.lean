/-
C20 — end to end for the hard-coded stencils: the EXECUTABLE model of `derivative` (`Model/Deriv.lean`, evaluated at
Float against the implementation) with ANY table of `Gen/DiffTables.lean` (regenerated from the source on every run)
returns, at the reals, the exact `n`-th derivative of every polynomial of degree below the stencil size, at every point
and for every non-zero step:   `C20d_derivative_exact`.
The chain: the model at the reals is a stencil sum (`derivative_real`); table (kernel-evaluated integer moment conditions,
`C20_tables`) → real moment conditions of its weights (`moments_real`) → `C20_stencil_coeff` (`derivative_coeff`: the function as a
polynomial of the displacement; the Taylor polynomial gives `C20d_derivative_exact`, a quadratic along a line the stage lemma of `C20Hess`).
-/
import Mathlib.Algebra.BigOperators.Fin
import Mathlib.Algebra.BigOperators.Group.List.Basic
import FFVerif.Proofs.C20
import FFVerif.Lemmas.RealScalar
import FFVerif.Model.Deriv
namespace FF.Deriv
open Polynomial C20

theorem ofInt_real (z : Int) : (ofInt z : ℝ) = (z : ℝ) := by
  unfold ofInt
  split_ifs with h
  · rw [lit_real, pow_zero, div_one, ← Int.cast_natCast, Int.toNat_of_nonneg h]
  · rw [lit_real, pow_zero, div_one, ← Int.cast_natCast, Int.toNat_of_nonneg (by omega), Int.cast_neg, neg_neg]

theorem foldl_zip_range (l : List Int) (h : Nat → Int → ℝ) :
    ((List.range l.length).zip l).foldl (fun acc p => acc + h p.1 p.2) 0 = ∑ k : Fin l.length, h k (l.get k) := by
  have e : (List.range l.length).zip l = List.ofFn (fun k : Fin l.length => ((k : Nat), l.get k)) := by
    apply List.ext_getElem
    · simp
    · intro i h1 h2
      simp
  rw [e, ← List.foldl_map (g := (· + ·)) (f := fun p : Nat × Int => h p.1 p.2), ← List.sum_eq_foldl, List.map_ofFn,
    List.sum_ofFn]
  rfl

theorem fact_eq (n : Nat) : C20.fact n = n.factorial := by
  induction n with
  | zero => rfl
  | succ k ih => simp [C20.fact, ih, Nat.factorial_succ]

theorem moment_real (m : Nat) (num : List Int) (j : Nat) :
    ((C20.moment m num j : Int) : ℝ) = ∑ k : Fin num.length, (num.get k : ℝ) * ((C20.node m k : Int) : ℝ) ^ j := by
  rw [← foldl_zip_range num fun k z => (z : ℝ) * ((C20.node m k : Int) : ℝ) ^ j, ← Int.cast_zero]
  exact (List.foldl_hom Int.cast fun x y => by push_cast; rfl).symm

theorem derivative_real (n m : Nat) (num : List Int) (den : Int) (f : ℝ → ℝ) (x0 dx : ℝ) :
    derivative (n, m, num, den) f x0 dx =
      (∑ k : Fin num.length, ((num.get k : ℝ) / den) * f (x0 + ((C20.node m k : Int) : ℝ) * dx)) / dx ^ n := by
  unfold derivative
  simp only [ofInt_real, npow_real]
  rw [show (zero : ℝ) = 0 from lit_real 0 0 |>.trans (by norm_num),
    foldl_zip_range num (fun k z => ((z : ℝ) / (den : ℝ)) * f (x0 + ((C20.node m k : Int) : ℝ) * dx))]

theorem moments_real (n m : Nat) (num : List Int) (den : Int) (hden : den ≠ 0) (hok : C20.momentOK n m num den = true) :
    num.length = m ∧ ∀ j < m, ∑ k : Fin num.length, ((num.get k : ℝ) / den) * ((C20.node m k : Int) : ℝ) ^ j
      = if j = n then (n.factorial : ℝ) else 0 := by
  simp only [C20.momentOK, Bool.and_eq_true, beq_iff_eq, List.all_eq_true, List.mem_range] at hok
  refine ⟨hok.1, fun j hj => ?_⟩
  have hden' : (den : ℝ) ≠ 0 := Int.cast_ne_zero.mpr hden
  have h2 := moment_real m num j
  rw [hok.2 j hj] at h2
  simp only [div_mul_eq_mul_div, ← Finset.sum_div, ← h2]
  split
  · rw [Int.cast_mul, Int.cast_natCast, fact_eq, mul_div_cancel_left₀ _ hden']
  · rw [Int.cast_zero, zero_div]

/-- on a function that is a polynomial `q` of the displacement from `x0`, of degree below the stencil size, the executable
`derivative` with any regenerated table returns `n!` times the coefficient `n` of `q` -/
theorem derivative_coeff (t : Nat × Nat × List Int × Int) (ht : t ∈ Gen.diffTables) (f : ℝ → ℝ) (x0 : ℝ)
    (q : ℝ[X]) (hq : q.natDegree < t.2.1) (hf : ∀ h, f (x0 + h) = q.eval h) (dx : ℝ) (hdx : dx ≠ 0) :
    derivative t f x0 dx = t.1.factorial * q.coeff t.1 := by
  have hden : ∀ t ∈ Gen.diffTables, t.2.2.2 ≠ 0 := by decide
  obtain ⟨hlen, hmom⟩ := moments_real t.1 t.2.1 t.2.2.1 t.2.2.2 (hden t ht) (C20_tables t ht)
  obtain ⟨n, m, num, den⟩ := t
  rw [derivative_real]
  simp only [hf]
  rw [C20_stencil_coeff num.length n _ _ (fun j hj => hmom j (hlen ▸ hj)) q (hlen ▸ hq) dx,
    mul_div_cancel_left₀ _ (pow_ne_zero n hdx)]

/-- **the executable `derivative` with any regenerated table is exact on polynomials of degree below the stencil size** -/
theorem C20d_derivative_exact (t : Nat × Nat × List Int × Int) (ht : t ∈ Gen.diffTables)
    (p : ℝ[X]) (hp : p.natDegree < t.2.1) (x0 dx : ℝ) (hdx : dx ≠ 0) :
    derivative t (fun x => p.eval x) x0 dx = (Polynomial.derivative^[t.1] p).eval x0 := by
  rw [derivative_coeff t ht _ x0 (taylor x0 p) (by rwa [natDegree_taylor]) (fun h => by rw [taylor_eval, add_comm]) dx hdx,
    factorial_mul_taylor_coeff]

/-- **gradient clause on the executable model**: if the restriction of `f` to coordinate `i` through `x` is a polynomial of degree
below the stencil size, `gradient` returns its exact `n`-th derivative at `x i` — any regenerated table, any non-zero step -/
theorem C20d_partial_exact (t : Nat × Nat × List Int × Int) (ht : t ∈ Gen.diffTables) (f : (Nat → ℝ) → ℝ) (i : Nat) (x : Nat → ℝ)
    (p : ℝ[X]) (hp : p.natDegree < t.2.1) (hf : ∀ s, f (fun k => if k = i then s else x k) = p.eval s) (dx : ℝ) (hdx : dx ≠ 0) :
    partialD t f i x dx = (Polynomial.derivative^[t.1] p).eval (x i) := by
  rw [partialD, funext hf]
  exact C20d_derivative_exact t ht p hp (x i) dx hdx

/-- non-vacuity: the three-point first-derivative table on `x^2` at `x0 = 3`, `dx = 1/2`: exactly `6` -/
example : derivative (1, 3, [-1, 0, 1], 2) (fun x => (X ^ 2 : ℝ[X]).eval x) 3 (1 / 2) = 6 := by
  rw [C20d_derivative_exact _ (by decide) _ (by rw [natDegree_X_pow]; norm_num) 3 (1 / 2) (by norm_num), Function.iterate_one,
    derivative_X_pow, eval_mul, eval_C, eval_pow, eval_X]
  norm_num

end FF.Deriv
