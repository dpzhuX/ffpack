/-
C13 — property theorems about the level bookkeeping of subset simulation (`FF.Subset`), for every
oracle stream, i.e. every Markov-chain history that respects the sampler's contract (C14: a move is
kept only if the domain test `g < threshold` passes, so every chain state stays at or below the
threshold of its level).
-/
import FFVerif.Model.Subset
import FFVerif.Proofs.C14
namespace FF
open Subset

theorem insertAsc_perm (x : Int) (l : List Int) : (insertAsc x l).Perm (x :: l) := by
  fun_induction insertAsc x l with
  | case1 | case2 => exact .refl _
  | case3 y t _ ih => exact ((List.perm_cons y).mpr ih).trans (.swap x y t)

theorem insertAsc_sorted (x : Int) (l : List Int) (h : l.Pairwise (· ≤ ·)) : (insertAsc x l).Pairwise (· ≤ ·) := by
  fun_induction insertAsc x l with
  | case1 => exact List.pairwise_singleton ..
  | case2 y t hxy =>
    refine List.pairwise_cons.mpr ⟨fun z hz => ?_, h⟩
    rcases List.mem_cons.mp hz with rfl | hz
    · omega
    · have := List.rel_of_pairwise_cons h hz; omega
  | case3 y t hxy ih =>
    refine List.pairwise_cons.mpr ⟨fun z hz => ?_, ih h.of_cons⟩
    rcases List.mem_cons.mp ((insertAsc_perm x t).mem_iff.mp hz) with rfl | hz
    · omega
    · exact List.rel_of_pairwise_cons h hz

theorem sortAsc_perm (l : List Int) : (sortAsc l).Perm l := by
  induction l with
  | nil => exact .refl _
  | cons x l ih => exact (insertAsc_perm x _).trans ((List.perm_cons x).mpr ih)

theorem sortAsc_sorted (l : List Int) : (sortAsc l).Pairwise (· ≤ ·) := by
  induction l with
  | nil => exact .nil
  | cons x l ih => exact insertAsc_sorted x _ ih

theorem sorted_take_le {l : List Int} (h : l.Pairwise (· ≤ ·)) {k : Nat} (hk : k < l.length) :
    ∀ v ∈ l.take (k + 1), v ≤ l.getD k 0 := by
  intro v hv
  obtain ⟨i, hi, rfl⟩ := List.mem_take_iff_getElem.mp hv
  rw [List.getD_eq_getElem?_getD, List.getElem?_eq_getElem hk, Option.getD_some]
  rcases Nat.lt_or_ge i k with hik | hik
  · exact List.pairwise_iff_getElem.mp h i k _ hk hik
  · have : i = k := by omega
    subst this; exact Int.le_refl _

theorem levelOf_eq (nc : Nat) (buf : List Int) :
    levelOf nc buf = ⟨sortAsc buf, max 0 ((sortAsc buf).getD (nc - 1) 0),
      if (sortAsc buf).getD (nc - 1) 0 ≤ 0 then some ((sortAsc buf).filter (· ≤ 0)).length else none⟩ := by
  unfold levelOf; simp only []; split
  · rw [Int.max_eq_left ‹_›]
  · rw [Int.max_eq_right (by omega)]

theorem levelOf_values (nc : Nat) (buf : List Int) : (levelOf nc buf).values = sortAsc buf := by
  rw [levelOf_eq]

theorem levelOf_threshold (nc : Nat) (buf : List Int) :
    (levelOf nc buf).threshold = max 0 ((sortAsc buf).getD (nc - 1) 0) := by
  rw [levelOf_eq]

theorem levelOf_prob (nc : Nat) (buf : List Int) :
    (levelOf nc buf).prob =
      if (sortAsc buf).getD (nc - 1) 0 ≤ 0 then some ((sortAsc buf).filter (· ≤ 0)).length else none := by
  rw [levelOf_eq]

/-- each level holds exactly the requested number of samples, sorted by limit-state value -/
theorem C13_level_sorted (nc : Nat) (buf : List Int) :
    (levelOf nc buf).values.Pairwise (· ≤ ·) ∧ (levelOf nc buf).values.length = buf.length := by
  rw [levelOf_values]; exact ⟨sortAsc_sorted buf, (sortAsc_perm buf).length_eq⟩

/-- the seeds of a level are at or below its threshold -/
theorem seeds_le_threshold (nc : Nat) (buf : List Int) (hnc : 1 ≤ nc) (hlen : nc ≤ buf.length) :
    ∀ v ∈ (levelOf nc buf).values.take nc, v ≤ (levelOf nc buf).threshold := by
  intro v hv
  rw [levelOf_values, ← Nat.sub_add_cancel hnc] at hv
  have := sorted_take_le (sortAsc_sorted buf) (by rw [(sortAsc_perm buf).length_eq]; omega) v hv
  rw [levelOf_threshold]; omega

theorem levelOf_cases (nc : Nat) (buf : List Int) :
    ((levelOf nc buf).prob = none ∧ 0 < (levelOf nc buf).threshold) ∨
    ((levelOf nc buf).prob.isSome = true ∧ (levelOf nc buf).threshold = 0) := by
  unfold levelOf
  simp only []
  split
  · exact .inr ⟨rfl, rfl⟩
  · exact .inl ⟨rfl, Int.not_le.mp ‹_›⟩

/-- the stored failure fraction never exceeds one -/
theorem C13_fraction_le (nc : Nat) (buf : List Int) (k : Nat) (h : (levelOf nc buf).prob = some k) : k ≤ buf.length := by
  rw [levelOf_prob] at h
  split at h
  · rw [← Option.some.inj h, ← (sortAsc_perm buf).length_eq]
    exact List.length_filter_le _ _
  · cases h

theorem C13_next_length (nc : Nat) (sorted : List Int) (chains : List (List Int))
    (h : nc + chains.flatten.length ≤ sorted.length) (hnc : nc ≤ sorted.length) :
    (nextBuffer nc sorted chains).length = sorted.length := by
  unfold nextBuffer
  rw [List.length_append, List.length_drop, List.length_append, List.length_take_of_le hnc]
  exact Nat.add_sub_cancel' h

/-- nestedness: if every chain state respects the sampler's contract (value at or below the level's
threshold) and the chains renew the whole level (`nc + Σ chain lengths = N`), then every sample of
the next level is at or below the threshold of the current one -/
theorem C13_nested (nc : Nat) (buf : List Int) (chains : List (List Int)) (hnc : 1 ≤ nc) (hlen : nc ≤ buf.length)
    (hfill : nc + chains.flatten.length = buf.length)
    (hcontract : ∀ ch ∈ chains, ∀ v ∈ ch, v ≤ (levelOf nc buf).threshold) :
    ∀ v ∈ nextBuffer nc (levelOf nc buf).values chains, v ≤ (levelOf nc buf).threshold := by
  intro v hv
  have hl : (levelOf nc buf).values.length = buf.length := (C13_level_sorted nc buf).2
  rcases List.mem_append.mp hv with hv | hv
  · rcases List.mem_append.mp hv with hv | hv
    · exact seeds_le_threshold nc buf hnc hlen v hv
    · obtain ⟨ch, hch, hvch⟩ := List.mem_flatten.mp hv
      exact hcontract ch hch v hvch
  · -- nothing of the old level is left over
    rw [List.drop_eq_nil_of_le (by rw [List.length_append, List.length_take]; omega)] at hv
    cases hv

/-- the defect this check found (now repaired in the source): when the chains do not renew the whole
level, rows of the previous level above the threshold survive — N = 10, p0 = 0.3 (3 chains of 3 states) -/
example : ∃ v ∈ nextBuffer 3 [-5, -2, 1, 2, 3, 4, 5, 6, 7, 8] [[-5, -6], [-2, -2], [1, 0]], v > 1 := by
  decide

theorem pf_nil (a b N : Nat) : pf a b N [] = (1, 1) := rfl

theorem pf_cons (a b N : Nat) (lv : Level) (t : List Level) :
    pf a b N (lv :: t) = match lv.prob with
      | none => (a * (pf a b N t).1, b * (pf a b N t).2)
      | some k => (k * (pf a b N t).1, N * (pf a b N t).2) := rfl

theorem pf_append (a b N : Nat) (l₁ l₂ : List Level) :
    pf a b N (l₁ ++ l₂) = ((pf a b N l₁).1 * (pf a b N l₂).1, (pf a b N l₁).2 * (pf a b N l₂).2) := by
  induction l₁ with
  | nil => simp [pf_nil]
  | cons lv t ih =>
    rw [List.cons_append, pf_cons, pf_cons, ih]
    split <;> simp only [Nat.mul_assoc]

theorem pf_all_p0 (a b N : Nat) (levels : List Level) (h : ∀ lv ∈ levels, lv.prob = none) :
    pf a b N levels = (a ^ levels.length, b ^ levels.length) := by
  induction levels with
  | nil => rfl
  | cons lv t ih =>
    rw [pf_cons, h lv (List.mem_cons_self), ih (fun l hl => h l (List.mem_cons_of_mem _ hl))]
    simp [Nat.pow_succ, Nat.mul_comm]

theorem mem_dropLast_cons {α : Type} {x a : α} {l : List α} (h : x ∈ (a :: l).dropLast) :
    x = a ∨ x ∈ l.dropLast := by
  cases l with
  | nil => cases h
  | cons b t => exact List.mem_cons.mp h

theorem run_dropLast (nc maxSub fuel : Nat) (buf : List Int) (oracle : List (List (List Int))) :
    ∀ lv ∈ (run nc maxSub fuel buf oracle).dropLast, lv.prob = none ∧ 0 < lv.threshold := by
  fun_induction run nc maxSub fuel buf oracle with
  | case1 | case2 | case3 | case4 => exact List.forall_mem_nil _
  | case5 maxSub fuel buf _ lv hstop chains rest ih =>
    intro l hl
    rcases mem_dropLast_cons hl with rfl | hmem
    · -- the level just computed did not stop the loop
      rcases levelOf_cases nc buf with hc | hc
      · exact hc
      · exact absurd ⟨hc.2 ▸ Int.le_refl 0, hc.1⟩ hstop
    · exact ih l hmem

/-- **shape of a run**: every level before the last stored `p0` and has a positive threshold; the loop stops
at the first level whose threshold is `0` (which stored its failure fraction) -/
theorem run_shape (nc : Nat) : ∀ (fuel maxSub : Nat) (buf : List Int) (oracle : List (List (List Int))) (init : List Level) (last : Level),
    run nc maxSub fuel buf oracle = init ++ [last] → ∀ lv ∈ init, lv.prob = none ∧ 0 < lv.threshold := by
  intro fuel maxSub buf oracle init last h
  have := run_dropLast nc maxSub fuel buf oracle
  rwa [h, List.dropLast_concat] at this

theorem C13_pf_in_unit (a b m k N : Nat) (hab : a ≤ b) (hkN : k ≤ N) : a ^ m * k ≤ b ^ m * N :=
  Nat.mul_le_mul (Nat.pow_le_pow_left hab m) hkN

/-- **pf clause**: when the last level reached the zero threshold with `k` of its `N` samples in the failure
set, the returned probability is `p0 ^ (m - 1) · k / N` for `m` levels -/
theorem C13_pf_product (nc fuel maxSub : Nat) (buf : List Int) (oracle : List (List (List Int))) (a b N : Nat)
    (init : List Level) (last : Level) (k : Nat)
    (hrun : run nc maxSub fuel buf oracle = init ++ [last]) (hlast : last.prob = some k) :
    pf a b N (run nc maxSub fuel buf oracle) = (a ^ init.length * k, b ^ init.length * N) := by
  rw [hrun, pf_append, pf_all_p0 a b N init fun lv h => (run_shape nc fuel maxSub buf oracle init last hrun lv h).1,
    pf_cons, hlast, pf_nil]
  simp only [Nat.mul_one]

/-- … hence within `[0, 1]` -/
theorem C13_pf_le_one (nc fuel maxSub : Nat) (buf : List Int) (oracle : List (List (List Int))) (a b N : Nat)
    (init : List Level) (last : Level) (k : Nat)
    (hrun : run nc maxSub fuel buf oracle = init ++ [last]) (hlast : last.prob = some k) (hab : a ≤ b) (hk : k ≤ N) :
    (pf a b N (run nc maxSub fuel buf oracle)).1 ≤ (pf a b N (run nc maxSub fuel buf oracle)).2 := by
  rw [C13_pf_product nc fuel maxSub buf oracle a b N init last k hrun hlast]
  exact C13_pf_in_unit a b init.length k N hab hk

/-- non-vacuity: `N = 4`, `p0 = 1/2`: first level threshold 1, second level reaches 0 with 3 failures: pf = 1/2 · 3/4 -/
example : pf 1 2 4 (run 2 5 6 [3, 1, 0, 2] [[[-1], [0]]]) = (3, 8) := by decide

/-! ### the chain contract from the sampler model (composition of C14 and C13) -/

/-- the domain function handed to the component-wise sampler by `subsetSimulation`
(`sampleDomainFunc`): a move to a different point is kept iff the limit state there is below the level -/
def subsetDomain (g : List Int → Int) (thr : Int) (cur nxt : List Int) : Bool :=
  decide (nxt ≠ cur) && decide (g nxt < thr)

/-- the successive states of one chain: the component-wise sampler step of `Model/Sampler.lean` iterated
over the scripted proposals and uniform draws -/
def chainStates (fs : List (Int → Int)) (g : List Int → Int) (thr : Int) :
    List Int → List (List Int × List (Nat × Nat)) → Except String (List (List Int))
  | _, [] => .ok []
  | cur, (cands, us) :: rest =>
    match Sampler.auStep fs (subsetDomain g thr) cur cands us with
    | .error e => .error e
    | .ok nxt =>
      match chainStates fs g thr nxt rest with
      | .error e => .error e
      | .ok states => .ok (nxt :: states)

theorem auStep_contract (fs : List (Int → Int)) (g : List Int → Int) (thr : Int) (cur cands : List Int)
    (us : List (Nat × Nat)) (nxt : List Int) (hcur : g cur ≤ thr)
    (h : Sampler.auStep fs (subsetDomain g thr) cur cands us = .ok nxt) : g nxt ≤ thr := by
  rcases auStep_ok h with rfl | hd
  · exact hcur
  · exact Int.le_of_lt (of_decide_eq_true (Bool.and_eq_true_iff.mp hd).2)

/-- **the sampler contract**: every state of a chain started at a seed at or below the level stays at or below it -/
theorem chain_contract (fs : List (Int → Int)) (g : List Int → Int) (thr : Int) :
    ∀ (steps : List (List Int × List (Nat × Nat))) (cur : List Int) (states : List (List Int)),
      g cur ≤ thr → chainStates fs g thr cur steps = .ok states → ∀ s ∈ states, g s ≤ thr := by
  intro steps cur
  fun_induction chainStates fs g thr cur steps with
  | case1 => intro _ _ h; cases h; exact List.forall_mem_nil _
  | case2 | case3 => intro _ _ h; cases h
  | case4 cur cands us rest nxt hstep sts hrest ih =>
    intro states hcur h s hs
    cases h
    have hn := auStep_contract fs g thr cur cands us nxt hcur hstep
    rcases List.mem_cons.mp hs with rfl | hmem
    · exact hn
    · exact ih sts hn hrest s hmem

/-- **nestedness, end to end on the models**: when the chains of a level are runs of the component-wise sampler model
with the domain function of `subsetSimulation`, started at seeds at or below the level's threshold, and renew the whole
level, every sample of the next level is at or below that threshold -/
theorem C13_nested_from_sampler (nc : Nat) (buf : List Int) (fs : List (Int → Int)) (g : List Int → Int)
    (runs : List (List Int × List (List Int × List (Nat × Nat)) × List (List Int)))
    (hnc : 1 ≤ nc) (hlen : nc ≤ buf.length)
    (hfill : nc + ((runs.map (fun r => r.2.2.map g)).flatten).length = buf.length)
    (hseed : ∀ r ∈ runs, g r.1 ≤ (levelOf nc buf).threshold)
    (hrun : ∀ r ∈ runs, chainStates fs g (levelOf nc buf).threshold r.1 r.2.1 = .ok r.2.2) :
    ∀ v ∈ nextBuffer nc (levelOf nc buf).values (runs.map (fun r => r.2.2.map g)), v ≤ (levelOf nc buf).threshold := by
  apply C13_nested nc buf _ hnc hlen hfill
  intro ch hch v hv
  obtain ⟨r, hr, rfl⟩ := List.mem_map.mp hch
  obtain ⟨s, hs, rfl⟩ := List.mem_map.mp hv
  exact chain_contract fs g _ r.2.1 r.1 r.2.2 (hseed r hr) (hrun r hr) s hs

end FF
