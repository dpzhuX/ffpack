/-
C12 — the rows of the rotation used by the executable curvature extraction (`Model/SormPipe.lean`) are orthonormal and
orthogonal to the design direction: the hypotheses of `C12p_paraboloid_entry` hold for the rows the model actually produces.

`argmaxAbs` returns a coordinate of largest modulus; for a unit alignment vector no unit vector `e_j`, `j ≠ kMax`, passes the
coincidence test (the residual has norm ≥ 1/√2), so the columns handed to the loops are `alignVec :: (e_j, j ≠ kMax)`, which under
`toE` is the list of `Proofs/C12Basis.lean`, linearly independent; the loops of the model are the abstract loops (`C20m_mgs_toE`),
so the output is orthonormal with first column `alignVec`.
-/
import FFVerif.Proofs.C12Basis
import FFVerif.Proofs.C20GramModel
import FFVerif.Proofs.C12Pipe
namespace FF.SormPipe
open FF.Linalg FF.Gram Finset

theorem absv_real (v : ℝ) : absv v = |v| := by
  unfold absv
  simp only [ltb_real, zero_real]
  split_ifs with h
  · exact (abs_of_neg h).symm
  · exact (abs_of_nonneg (not_lt.mp h)).symm

theorem argmax_foldl (key : Nat → ℝ) (l : List Nat) (b : Nat) :
    (∀ j ∈ b :: l, key j ≤ key (l.foldl (fun best i => if key best < key i then i else best) b)) ∧
      l.foldl (fun best i => if key best < key i then i else best) b ∈ b :: l := by
  induction l generalizing b with
  | nil => exact ⟨fun j hj => (congrArg key (List.mem_singleton.mp hj)).le, List.mem_singleton_self b⟩
  | cons a t ih =>
    rw [List.foldl_cons]
    split_ifs with hc
    · obtain ⟨h1, h2⟩ := ih a
      exact ⟨List.forall_mem_cons.mpr ⟨hc.le.trans (h1 a List.mem_cons_self), h1⟩, List.mem_cons_of_mem _ h2⟩
    · obtain ⟨h1, h2⟩ := ih b
      obtain ⟨hb, ht⟩ := List.forall_mem_cons.mp h1
      exact ⟨List.forall_mem_cons.mpr ⟨hb, List.forall_mem_cons.mpr ⟨(not_lt.mp hc).trans hb, ht⟩⟩,
        ((List.sublist_cons_self a t).cons_cons b).subset h2⟩

theorem argmaxAbs_spec (n : Nat) (hn : 0 < n) (v : Vec ℝ) :
    argmaxAbs n v < n ∧ ∀ j, j < n → |v j| ≤ |v (argmaxAbs n v)| := by
  have h : argmaxAbs n v = (List.range n).foldl (fun best i => if |v best| < |v i| then i else best) 0 := by
    simp only [argmaxAbs, ltb_real, absv_real]
  rw [h]
  obtain ⟨h1, h2⟩ := argmax_foldl (fun i => |v i|) (List.range n) 0
  refine ⟨?_, fun j hj => h1 j (List.mem_cons_of_mem _ (List.mem_range.mpr hj))⟩
  rcases List.mem_cons.mp h2 with h2 | h2
  · rw [h2]; exact hn
  · exact List.mem_range.mp h2

theorem coincides_unit (n : Nat) (al cur : Vec ℝ) (hal : norm n al = 1) :
    coincides n al cur = true ↔ norm n (vsub cur (smul (dot n cur al) al)) ≤ 1 / 10 ^ 12 * norm n cur := by
  have hunit : smul ((one : ℝ) / norm n al) al = al := by
    funext i; rw [smul, hal, one_real, div_one, one_mul]
  rw [coincides, hunit, leb_real, lit_real, Nat.cast_one]

/-- Pythagoras for what is left of `cur` after removing its component along the unit alignment vector (the quantity the coincidence
test looks at) -/
theorem norm_residual_sq (n : Nat) (al cur : Vec ℝ) (hal : norm n al = 1) :
    norm n (vsub cur (smul (dot n cur al) al)) ^ 2 = norm n cur ^ 2 - dot n cur al ^ 2 := by
  rw [← norm_toE, toE_vsub_smul, ← inner_toE, norm_sub_sq_real, real_inner_smul_right, _root_.norm_smul, norm_toE, norm_toE, hal,
    mul_one, Real.norm_eq_abs, sq_abs]
  ring

/-- a vector whose component along the unit alignment vector is at most `1/√2` of its length does not coincide with it: the
residual keeps at least `1/√2` of the length -/
theorem coincides_false (n : Nat) (al cur : Vec ℝ) (hal : norm n al = 1) (hcur : 0 < norm n cur)
    (h : 2 * dot n cur al ^ 2 ≤ norm n cur ^ 2) : coincides n al cur = false := by
  rw [← Bool.not_eq_true, coincides_unit n al cur hal, not_le]
  refine lt_of_pow_lt_pow_left₀ 2 (norm_nonneg _ _) ?_
  rw [mul_pow, norm_residual_sq n al cur hal]
  linarith [pow_pos hcur 2]

/-- for a unit alignment vector, a unit vector `e_j` whose coordinate is not the largest one is far from coinciding with it:
`al_j² ≤ al_k²` and `al_j² + al_k² ≤ 1` give `al_j² ≤ 1/2` -/
theorem coincides_unit_false (n : Nat) (al : Vec ℝ) (hal : norm n al = 1) (j k : Nat) (hj : j < n) (hk : k < n) (hjk : j ≠ k)
    (hle : |al j| ≤ |al k|) : coincides n al (unitVec j) = false := by
  have hunit : ∀ f : Nat → ℝ, ∑ i ∈ range n, unitVec j i * f i = f j := fun f => by
    simp only [unitVec, one_real, zero_real]
    exact sum_ite_mul n f j hj
  have hnorm : norm n (unitVec j) = 1 := by
    rw [norm_real, hunit, unitVec, if_pos rfl, one_real, Real.sqrt_one]
  refine coincides_false n al _ hal (by rw [hnorm]; exact one_pos) ?_
  rw [hnorm, dot_real, hunit al]
  have hsum : ∑ i ∈ range n, al i * al i = 1 := by
    rw [← dot_real, ← norm_sq, hal, one_mul]
  have hjk2 : al j * al j + al k * al k ≤ 1 := by
    rw [← hsum, ← Finset.sum_pair (f := fun i => al i * al i) hjk]
    exact Finset.sum_le_sum_of_subset_of_nonneg
      (Finset.insert_subset_iff.mpr ⟨mem_range.mpr hj, Finset.singleton_subset_iff.mpr (mem_range.mpr hk)⟩)
      fun i _ _ => mul_self_nonneg _
  have hsq : al j * al j ≤ al k * al k := abs_le_iff_mul_self_le.mp hle
  rw [sq]
  linarith

theorem toE_unitVec (n : Nat) (j : Fin n) : toE n (unitVec j.val) = EuclideanSpace.single j (1 : ℝ) := by
  ext i
  simp only [toE, unitVec, one_real, zero_real, PiLp.single_apply, Fin.val_inj]

theorem units_toE (n : Nat) (k : Fin n) :
    (((List.range n).filter (· ≠ k.val)).map unitVec).map (toE n)
      = ((List.finRange n).filter (· ≠ k)).map (fun j => EuclideanSpace.single j (1 : ℝ)) := by
  rw [← List.map_coe_finRange_eq_range, List.filter_map, List.map_map, List.map_map]
  refine (List.map_congr_left fun j _ => toE_unitVec n j).trans (congrArg _ (List.filter_congr fun x _ => ?_))
  simp only [Function.comp_apply, ne_eq, Fin.val_inj]

/-- **the basis the model builds**: as many columns as the dimension, orthonormal, the first one the alignment vector -/
theorem C12r_basis_orthonormal (n : Nat) (hn : 0 < n) (al : Vec ℝ) (hal : Linalg.norm n al = 1) :
    let kMax := argmaxAbs n al
    let cols := unitVec kMax :: ((List.range n).filter (· ≠ kMax)).map unitVec
    let B := Gram.orth n cols (some al)
    B.length = n ∧
      (∀ i j (hi : i < B.length) (hj : j < B.length), dot n B[i] B[j] = if i = j then 1 else 0) ∧
      (∀ (h0 : 0 < B.length) m, m < n → B[0] m = al m) := by
  intro kMax cols B
  obtain ⟨hk, hmax⟩ := argmaxAbs_spec n hn al
  -- no column coincides with the alignment vector, so the loops get `al :: (e_j, j ≠ kMax)`
  have hB : B = Gram.mgs n (al :: ((List.range n).filter (· ≠ kMax)).map unitVec) := by
    refine congrArg (Gram.mgs n) (C20m_arrange_none n _ al fun i hi h1 => ?_)
    obtain ⟨i', rfl⟩ := Nat.exists_eq_add_of_le' h1
    rw [List.length_cons, List.length_map, Nat.add_lt_add_iff_right] at hi
    rw [List.getD_cons_succ, List.getD_eq_getElem?_getD, List.getElem?_map, List.getElem?_eq_getElem hi, Option.map_some,
      Option.getD_some]
    obtain ⟨hj1, hj2⟩ := List.mem_filter.mp (List.getElem_mem hi)
    exact coincides_unit_false n al hal _ kMax (List.mem_range.mp hj1) hk (of_decide_eq_true hj2) (hmax _ (List.mem_range.mp hj1))
  -- a unit vector has a non-zero largest coordinate, so under `toE` that list is the independent one of `C12Basis`
  have hvk : (toE n al) ⟨kMax, hk⟩ ≠ 0 := by
    refine C12_argmax_component_ne_zero (toE n al) ?_ ⟨kMax, hk⟩ (fun j => hmax j j.2)
    rw [← norm_ne_zero_iff, norm_toE, hal]; exact one_ne_zero
  obtain ⟨hli, hlen⟩ := C12_basis_replace_independent (toE n al) ⟨kMax, hk⟩ hvk
  rw [← units_toE n ⟨kMax, hk⟩, ← List.map_cons] at hli hlen
  rw [hB]
  exact ⟨(Gram.mgs_length n _).trans ((List.length_map ..).symm.trans hlen), C20m_orthonormal n _ hli,
    fun h0 m hm => by rw [C20m_first n al _ h0 m hm, hal, div_one]⟩

theorem alignOf_norm (T : Nataf.Model ℝ) (x a : Vec ℝ) (hg : Linalg.norm T.dim (Form.gradU T x a) ≠ 0) :
    Linalg.norm T.dim (alignOf T x a) = 1 := by
  rw [← abs_one, ← Form.norm_smul_div T.dim 1 _ hg]
  exact norm_congr fun i _ => by rw [alignOf, one_real, mul_div_assoc]

/-- **the rows the model uses meet the hypotheses of the paraboloid theorem**: the first `n - 1` rows are orthonormal and
orthogonal to the alignment vector (the design direction) -/
theorem C12r_rows (T : Nataf.Model ℝ) (x a : Vec ℝ) (Hx : Mat ℝ) (hn : 0 < T.dim)
    (hg : Linalg.norm T.dim (Form.gradU T x a) ≠ 0) :
    (curvatureBlock T x a Hx).rows.length = T.dim ∧
    ∀ i l (hi : i < (curvatureBlock T x a Hx).rows.length) (hl : l < (curvatureBlock T x a Hx).rows.length),
      i < T.dim - 1 → l < T.dim - 1 →
      dot T.dim (curvatureBlock T x a Hx).rows[i] (curvatureBlock T x a Hx).rows[l] = (if i = l then 1 else 0) ∧
      dot T.dim (curvatureBlock T x a Hx).rows[i] (alignOf T x a) = 0 := by
  obtain ⟨hlen, horth, hfirst⟩ := C12r_basis_orthonormal T.dim hn (alignOf T x a) (alignOf_norm T x a hg)
  rw [show (curvatureBlock T x a Hx).rows = basisRows T.dim (alignOf T x a) by rw [curvatureBlock_real]]
  -- the basis is `b0 :: tl` with `b0` the alignment vector (on its first `n` entries); the rows are `tl ++ [b0]`
  unfold basisRows
  generalize Gram.orth T.dim _ (some (alignOf T x a)) = B at hlen horth hfirst
  obtain _ | ⟨b0, tl⟩ := B
  · exact absurd hlen hn.ne
  rw [show (b0 :: tl).tail ++ (b0 :: tl).take 1 = tl ++ [b0] from rfl]
  rw [List.length_cons] at hlen
  refine ⟨by rw [List.length_append, List.length_singleton]; exact hlen, fun i l hi hl hin hln => ?_⟩
  have hi' : i + 1 < (b0 :: tl).length := by rw [List.length_cons]; omega
  have hl' : l + 1 < (b0 :: tl).length := by rw [List.length_cons]; omega
  rw [List.getElem_append_left (Nat.succ_lt_succ_iff.mp hi'), List.getElem_append_left (Nat.succ_lt_succ_iff.mp hl'),
    ← dot_congr_right _ _ _ _ (hfirst (Nat.succ_pos _))]
  exact ⟨(horth (i + 1) (l + 1) hi' hl').trans (if_congr Nat.succ_inj rfl rfl),
    (horth (i + 1) 0 hi' (Nat.succ_pos _)).trans (if_neg (Nat.succ_ne_zero i))⟩

/-- **the paraboloid clause, end to end on the executable model.**  Standard normal space of dimension `n ≥ 1`; `e` a unit vector and
`v 0 … v (n-2)` completing it to an orthonormal basis; at the design point the gradient of the paraboloid
`β − ⟨e,u⟩ + ½ Σ κ_j ⟨v_j,u⟩²` is `−e` and its Hessian `Σ κ_j v_j v_jᵀ`.  Then, for the rows `r_i` the model itself builds
(argmax column, coincidence test, Gram–Schmidt), every entry `(i, l)` of the curvature matrix equals `Σ_j R_ij κ_j R_lj` with
`R_ij = ⟨r_i, v_j⟩`, and `R Rᵀ = 1`: the main curvatures are the `κ_j` (`C12_similar_charpoly`), whatever the rotation
and the order of the axes. -/
theorem C12p_paraboloid_model (T : Nataf.Model ℝ) (hT : Standard T) (hn : 0 < T.dim) (x : Vec ℝ) (e : Vec ℝ) (v : Nat → Vec ℝ)
    (κ : Nat → ℝ) (he : dot T.dim e e = 1)
    (hcomplete : ∀ k m, k < T.dim → m < T.dim →
      (∑ j ∈ range (T.dim - 1), v j k * v j m) + e k * e m = if k = m then 1 else 0) :
    let a : Vec ℝ := fun i => -e i
    let Hx : Mat ℝ := fun k m => ∑ j ∈ range (T.dim - 1), κ j * v j k * v j m
    let rows := (curvatureBlock T x a Hx).rows
    ∀ i l (hi : i < rows.length) (hl : l < rows.length), i < T.dim - 1 → l < T.dim - 1 →
      (∑ k ∈ range T.dim, ∑ m ∈ range T.dim, rows[i] k * (hessU T x a Hx k m / 1) * rows[l] m
          = ∑ j ∈ range (T.dim - 1), dot T.dim rows[i] (v j) * κ j * dot T.dim rows[l] (v j)) ∧
      (∑ j ∈ range (T.dim - 1), dot T.dim rows[i] (v j) * dot T.dim rows[l] (v j) = if i = l then 1 else 0) := by
  intro a Hx rows i l hi hl hin hln
  -- the U-space gradient is `-e`, of norm 1, so the alignment vector is `e`
  have hgrad : ∀ j < T.dim, Form.gradU T x a j = -e j := fun j hj => gradU_standard T hT x a j hj
  have hnorm : Linalg.norm T.dim (Form.gradU T x a) = 1 := by
    rw [norm_real, ← Real.sqrt_one, ← he, dot_real]
    exact congrArg _ (sum_congr rfl fun j hj => by rw [hgrad j (mem_range.mp hj), neg_mul_neg])
  have halign : ∀ j < T.dim, alignOf T x a j = e j := fun j hj => by
    rw [alignOf, hnorm, hgrad j hj, one_real, div_one, neg_one_mul, neg_neg]
  obtain ⟨_, hrows⟩ := C12r_rows T x a Hx hn (by rw [hnorm]; exact one_ne_zero)
  have hperp : ∀ i (hi : i < rows.length), i < T.dim - 1 → dot T.dim rows[i] e = 0 := fun i hi hin =>
    (dot_congr_right _ _ _ _ halign).symm.trans (hrows i i hi hi hin hin).2
  exact (C12p_paraboloid_entry T hT x a e v κ hcomplete _ _ (hperp i hi hin) (hperp l hl hln)).imp_right
    fun h => h.trans (hrows i l hi hl hin hln).1

end FF.SormPipe
