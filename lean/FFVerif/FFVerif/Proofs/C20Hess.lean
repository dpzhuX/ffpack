/-
C20 / C12 — the EXECUTABLE model of `hessianMatrix` (`Model/Deriv.lean: hessD`, the gradient stencil applied to the gradient
stencil, compared with the implementation at Float) is exact on quadratic functions, at the reals, for every first-derivative
table regenerated from the source, every evaluation point and every non-zero step:

    f( y ) = c0 + Σ_k b_k y_k + Σ_k Σ_l Q_kl y_k y_l     ⇒     hessD t f i j x dx = Q_ij + Q_ji        ( i, j < d )

Along any line a quadratic is a polynomial of degree ≤ 2 in the displacement, so the first stage returns the exact partial
derivative at EVERY point; that is again a quadratic function of the point, so the second stage is the first stage once more.
The abstract statement on `Fin d` is `C20_hessian_quadratic`; the SORM curvature extraction of C12 relies on this one for
quadratic limit states.
-/
import Mathlib.Algebra.BigOperators.Ring.Finset
import Mathlib.Tactic.Ring
import Mathlib.Algebra.Polynomial.Degree.SmallDegree
import FFVerif.Proofs.C20Deriv
import FFVerif.Lemmas.LinalgReal
namespace FF.Deriv
open Polynomial Finset

/-- stage lemma: if along coordinate `i` through `y` the function is `A + B h + C h²` in the displacement `h`, a first-derivative
stencil of at least three points returns `B` -/
theorem partialD_of_line_quadratic (t : Nat × Nat × List Int × Int) (ht : t ∈ Gen.diffTables) (ht1 : t.1 = 1) (hm : 3 ≤ t.2.1)
    (f : (Nat → ℝ) → ℝ) (i : Nat) (y : Nat → ℝ) (A B Cc : ℝ)
    (hf : ∀ h, f (fun k => y k + h * (if k = i then 1 else 0)) = A + B * h + Cc * h ^ 2) (dx : ℝ) (hdx : dx ≠ 0) :
    partialD t f i y dx = B := by
  rw [partialD, derivative_coeff t ht _ (y i) (C Cc * X ^ 2 + C B * X + C A) (lt_of_le_of_lt natDegree_quadratic_le hm)
    (fun h => ?_) dx hdx, ht1]
  · simp
  · simp only [Linalg.upd_eq y i, add_sub_cancel_left, hf, eval_add, eval_mul, eval_C, eval_pow, eval_X]
    ring

noncomputable def quad (d : Nat) (c0 : ℝ) (b : Nat → ℝ) (Q : Nat → Nat → ℝ) (y : Nat → ℝ) : ℝ :=
  c0 + ∑ k ∈ range d, b k * y k + ∑ k ∈ range d, ∑ l ∈ range d, Q k l * y k * y l

/-- the exact partial derivative of `quad` with respect to coordinate `i` -/
noncomputable def quadGrad (d : Nat) (b : Nat → ℝ) (Q : Nat → Nat → ℝ) (i : Nat) (y : Nat → ℝ) : ℝ :=
  ∑ k ∈ range d, b k * (if k = i then 1 else 0) +
    ∑ k ∈ range d, ∑ l ∈ range d, Q k l * (y k * (if l = i then 1 else 0) + (if k = i then 1 else 0) * y l)

theorem quad_line (d : Nat) (c0 : ℝ) (b : Nat → ℝ) (Q : Nat → Nat → ℝ) (y e : Nat → ℝ) (h : ℝ) :
    quad d c0 b Q (fun k => y k + h * e k) =
      quad d c0 b Q y
        + (∑ k ∈ range d, b k * e k + ∑ k ∈ range d, ∑ l ∈ range d, Q k l * (y k * e l + e k * y l)) * h
        + (∑ k ∈ range d, ∑ l ∈ range d, Q k l * (e k * e l)) * h ^ 2 := by
  have e1 : ∀ k, b k * (y k + h * e k) = b k * y k + b k * e k * h := fun k => by ring
  have e2 : ∀ k l, Q k l * (y k + h * e k) * (y l + h * e l) =
      Q k l * y k * y l + Q k l * (y k * e l + e k * y l) * h + Q k l * (e k * e l) * h ^ 2 := fun k l => by ring
  simp only [quad, e1, e2, sum_add_distrib, ← sum_mul]
  ring

/-- **first stage**: the gradient stencil of the model returns the exact partial derivative of a quadratic at every point -/
theorem C20h_grad_quadratic (t : Nat × Nat × List Int × Int) (ht : t ∈ Gen.diffTables) (ht1 : t.1 = 1) (hm : 3 ≤ t.2.1)
    (d : Nat) (c0 : ℝ) (b : Nat → ℝ) (Q : Nat → Nat → ℝ) (i : Nat) (y : Nat → ℝ) (dx : ℝ) (hdx : dx ≠ 0) :
    partialD t (quad d c0 b Q) i y dx = quadGrad d b Q i y :=
  partialD_of_line_quadratic t ht ht1 hm _ i y _ _ _ (quad_line d c0 b Q y _) dx hdx

theorem quadGrad_closed (d : Nat) (b : Nat → ℝ) (Q : Nat → Nat → ℝ) (i : Nat) (hi : i < d) (y : Nat → ℝ) :
    quadGrad d b Q i y = b i + ∑ k ∈ range d, (Q k i + Q i k) * y k := by
  have e : ∀ k l, Q k l * (y k * (if l = i then 1 else 0) + (if k = i then 1 else 0) * y l)
      = (if l = i then 1 else 0) * (Q k l * y k) + (if k = i then 1 else 0) * (Q k l * y l) := fun k l => by ring
  simp only [quadGrad, e, mul_comm (b _), sum_add_distrib, ← mul_sum, Linalg.sum_ite_mul d _ i hi, add_mul]

/-- inside the range a gradient component of a quadratic is again a quadratic function (an affine one): the second stage of
`hessianMatrix` is the first stage once more -/
theorem quadGrad_eq_quad (d : Nat) (b : Nat → ℝ) (Q : Nat → Nat → ℝ) (i : Nat) (hi : i < d) :
    quadGrad d b Q i = quad d (b i) (fun k => Q k i + Q i k) (fun _ _ => 0) := by
  funext y
  rw [quadGrad_closed d b Q i hi y]
  simp only [quad, zero_mul, sum_const_zero, add_zero]

/-- **the executable Hessian model is exact on quadratics**: entry `( i, j )` is `Q_ij + Q_ji`, at every point, for every non-zero
step and every regenerated first-derivative table with at least three points -/
theorem C20h_hess_quadratic (t : Nat × Nat × List Int × Int) (ht : t ∈ Gen.diffTables) (ht1 : t.1 = 1) (hm : 3 ≤ t.2.1)
    (d : Nat) (c0 : ℝ) (b : Nat → ℝ) (Q : Nat → Nat → ℝ) (i j : Nat) (hi : i < d) (hj : j < d) (x : Nat → ℝ) (dx : ℝ) (hdx : dx ≠ 0) :
    hessD t (quad d c0 b Q) i j x dx = Q i j + Q j i := by
  unfold hessD
  rw [funext (fun y => C20h_grad_quadratic t ht ht1 hm d c0 b Q i y dx hdx), quadGrad_eq_quad d b Q i hi,
    C20h_grad_quadratic t ht ht1 hm _ _ _ _ _ _ _ hdx, quadGrad_closed _ _ _ j hj]
  simp only [add_zero, zero_mul, sum_const_zero]
  ring

theorem C20h_hess_symm (t : Nat × Nat × List Int × Int) (ht : t ∈ Gen.diffTables) (ht1 : t.1 = 1) (hm : 3 ≤ t.2.1)
    (d : Nat) (c0 : ℝ) (b : Nat → ℝ) (Q : Nat → Nat → ℝ) (i j : Nat) (hi : i < d) (hj : j < d) (x : Nat → ℝ) (dx : ℝ) (hdx : dx ≠ 0) :
    hessD t (quad d c0 b Q) i j x dx = hessD t (quad d c0 b Q) j i x dx := by
  rw [C20h_hess_quadratic t ht ht1 hm d c0 b Q i j hi hj x dx hdx, C20h_hess_quadratic t ht ht1 hm d c0 b Q j i hj hi x dx hdx]
  ring

/-- non-vacuity: `f = 1 + 2 y0 + 3 y0 y1 + 5 y1²` with the three-point table at `( 1, 2 )`, step `1/4`: `H01 = 3`, `H11 = 10` -/
example : hessD (1, 3, [-1, 0, 1], 2)
    (quad 2 1 (fun k => if k = 0 then 2 else 0) (fun k l => if k = 0 ∧ l = 1 then 3 else if k = 1 ∧ l = 1 then 5 else 0))
    0 1 (fun k => if k = 0 then 1 else 2) (1 / 4) = 3 := by
  rw [C20h_hess_quadratic _ (by decide) rfl (by decide) 2 _ _ _ 0 1 (by decide) (by decide) _ _ (by norm_num)]
  norm_num

end FF.Deriv
