/-
C20 — property theorems: central-difference weights satisfy the moment conditions (the hard-coded
tables, regenerated from the source, by kernel evaluation; the general Vandermonde weights by linear
algebra), and the moment conditions make the derivative helper exact on polynomials of degree < m.
-/
import Mathlib.Algebra.Polynomial.Taylor
import Mathlib.Algebra.Polynomial.Derivative
import Mathlib.Algebra.Polynomial.HasseDeriv
import Mathlib.LinearAlgebra.Vandermonde
import Mathlib.Data.Real.Basic
import Mathlib.Tactic.Ring
import FFVerif.Props.C20
import FFVerif.Gen.DiffTables
namespace FF
open C20 Polynomial

/-- every hard-coded table of `derivative` satisfies `Σ w_k k^j = n! [j = n]`, j < m -/
theorem C20_tables : ∀ t ∈ Gen.diffTables, momentOK t.1 t.2.1 t.2.2.1 t.2.2.2 = true := by
  decide +kernel

-- the table is not empty (the quantifier above is not vacuous)
example : Gen.diffTables.length = 8 := by decide

/-- the core, in terms of the polynomial `q` of the displacement: exchange the sums, and the moment conditions pick the
coefficient `n` -/
theorem C20_stencil_coeff (m n : ℕ) (w x : Fin m → ℝ)
    (hmom : ∀ j < m, ∑ k, w k * x k ^ j = if j = n then (n.factorial : ℝ) else 0)
    (q : ℝ[X]) (hq : q.natDegree < m) (dx : ℝ) :
    ∑ k, w k * q.eval (x k * dx) = dx ^ n * (n.factorial * q.coeff n) := by
  trans ∑ j ∈ Finset.range m, q.coeff j * dx ^ j * ∑ k, w k * x k ^ j
  · simp only [eval_eq_sum_range' hq, Finset.mul_sum, mul_pow]
    rw [Finset.sum_comm]
    exact Finset.sum_congr rfl fun j _ => Finset.sum_congr rfl fun k _ => by ring
  · rw [Finset.sum_congr rfl fun j hj => by rw [hmom j (Finset.mem_range.mp hj)]]
    simp only [mul_ite, mul_zero, Finset.sum_ite_eq', Finset.mem_range]
    split_ifs with hn
    · ring
    · rw [coeff_eq_zero_of_natDegree_lt (hq.trans_le (not_lt.mp hn)), mul_zero, mul_zero]

theorem factorial_mul_taylor_coeff (p : ℝ[X]) (x0 : ℝ) (n : ℕ) :
    (n.factorial : ℝ) * (taylor x0 p).coeff n = (derivative^[n] p).eval x0 := by
  rw [taylor_coeff, ← nsmul_eq_mul, ← eval_smul]
  exact congrArg (eval x0) (congrFun (factorial_smul_hasseDeriv n) p)

/-- moment conditions ⇒ the weighted stencil sum of a polynomial of degree < m is dx^n times its
n-th derivative, at every point and for every step -/
theorem C20_exact_on_polynomials (m n : ℕ) (w : Fin m → ℝ) (x : Fin m → ℝ)
    (hmom : ∀ j < m, ∑ k, w k * x k ^ j = if j = n then (n.factorial : ℝ) else 0)
    (p : ℝ[X]) (hp : p.natDegree < m) (x0 dx : ℝ) :
    ∑ k, w k * p.eval (x0 + x k * dx) = dx ^ n * (derivative^[n] p).eval x0 := by
  -- the polynomial of the displacement is the Taylor polynomial at `x0`
  rw [← factorial_mul_taylor_coeff, ← C20_stencil_coeff m n w x hmom _ (by rwa [natDegree_taylor]) dx]
  exact Finset.sum_congr rfl fun k _ => by rw [taylor_eval, add_comm]

/-- the general weights `n! * (V⁻¹)_n` of `centralDiffWeights` (V the Vandermonde matrix of distinct
nodes) satisfy the moment conditions -/
theorem C20_vandermonde_weights (m n : ℕ) (x : Fin m → ℝ) (hx : Function.Injective x) (hn : n < m)
    (j : ℕ) (hj : j < m) :
    ∑ k, ((n.factorial : ℝ) * (Matrix.vandermonde x)⁻¹ ⟨n, hn⟩ k) * x k ^ j =
      if j = n then (n.factorial : ℝ) else 0 := by
  have hdet : IsUnit (Matrix.vandermonde x).det := isUnit_iff_ne_zero.mpr (Matrix.det_vandermonde_ne_zero_iff.mpr hx)
  -- entry `(n, j)` of `V⁻¹ V = 1`
  have hent := congrFun (congrFun (Matrix.nonsing_inv_mul _ hdet) ⟨n, hn⟩) ⟨j, hj⟩
  simp only [Matrix.mul_apply, Matrix.vandermonde_apply, Matrix.one_apply, Fin.mk.injEq] at hent
  simp only [mul_assoc, ← Finset.mul_sum, hent, eq_comm (a := n), mul_ite, mul_one, mul_zero]

theorem C20_general_exact (m n : ℕ) (x : Fin m → ℝ) (hx : Function.Injective x) (hn : n < m)
    (p : ℝ[X]) (hp : p.natDegree < m) (x0 dx : ℝ) :
    ∑ k, ((n.factorial : ℝ) * (Matrix.vandermonde x)⁻¹ ⟨n, hn⟩ k) * p.eval (x0 + x k * dx)
      = dx ^ n * (derivative^[n] p).eval x0 :=
  C20_exact_on_polynomials m n _ x (fun j hj => C20_vandermonde_weights m n x hx hn j hj) p hp x0 dx

end FF
