/-
C03 — property theorems: counts depend only on the reversals and respect the load symmetries.
Everything is stated about the code-shaped models (`Counter.run`, `levelCrossingSeq`, `peakSeq`).
Time reversal is proved here for simple-range counting; for rainflow, four-point and Rychlik the clause is
stated as `C03.ReverseStatement` and proved in Proofs/C03Reverse.lean (`C03_reverse`).
-/
import FFVerif.Lemmas.Refine
import FFVerif.Lemmas.Similar
import FFVerif.Lemmas.Reverse
import FFVerif.Props.C02
import FFVerif.Props.C03
namespace FF
open C02 C03

/-- no cycle count changes (cycle by cycle, hence the tables too) -/
theorem C03_refine_cycles (k : Counter) {h h' : List Int} (r : Refines h h') : k.run h' = k.run h := by
  have e := pv_refines true r
  cases k <;>
    simp only [Counter.run, simpleRange, rainflow, rangePair, rangePairFull, rainflowRepeat, fourPoint,
      fourPointFull, rychlik, johannesson, e]

theorem C03_refine_level {h h' : List Int} (r : Refines h h') (ref : Int) (levels : List Int) :
    levelCrossingSeq h' ref levels = levelCrossingSeq h ref levels := by
  simp only [levelCrossingSeq, pv_refines true r]

/-- … including the default level grid, which only depends on the overall minimum and maximum -/
theorem C03_refine_defaultLevels {h h' : List Int} (r : Refines h h') (hne : h ≠ []) (unit : Nat) :
    defaultLevels unit h' = defaultLevels unit h := by
  obtain ⟨e1, e2⟩ := refines_extremes r hne
  match h, h', hne with
  | x :: xs, [], _ =>
    have := (refines_mem r).1 x (by simp)
    cases this
  | x :: xs, y :: ys, _ =>
    simp only [listMin, listMax] at e1 e2
    simp only [defaultLevels, e1, e2]

theorem C03_refine_peak {h h' : List Int} (r : Refines h h') (ref : Int) : peakSeq h' ref = peakSeq h ref := by
  simp only [peakSeq, pv_refines true r]

-- non-vacuity: a genuine refinement (one repetition, one insertion on a falling stretch)
example : Refines [0, -3, 0, 1] [0, -3, -3, 0, 1] :=
  Refines.step _ [0] (-3) (-3) 0 [1] (by unfold Between; omega) (Refines.refl _)
example : Refines [5, 0, 2] [5, 3, 0, 2] :=
  Refines.step _ [] 5 3 0 [2] (by unfold Between; omega) (Refines.refl _)

theorem sim_shift (c : Int) : Sim 1 (· + c) :=
  ⟨Nat.one_pos, fun a b => by unfold rng; rw [Nat.one_mul, Int.add_sub_add_right]⟩
theorem inc_shift (c : Int) : Inc (· + c) := fun a b h => by simp; omega
theorem sim_scale (c : Nat) (hc : 0 < c) : Sim c (fun x => (c : Int) * x) :=
  ⟨hc, fun a b => by unfold rng; rw [← Int.mul_sub, Int.natAbs_mul]; simp⟩
theorem inc_scale (c : Nat) (hc : 0 < c) : Inc (fun x => (c : Int) * x) :=
  fun a b h => Int.mul_lt_mul_of_pos_left h (by omega)
theorem sim_neg : Sim 1 (fun x => -x) :=
  ⟨Nat.one_pos, fun a b => by
    unfold rng; rw [Nat.one_mul, Int.sub_eq_add_neg, ← Int.neg_add, ← Int.sub_eq_add_neg, Int.natAbs_neg]⟩
theorem anti_neg : Anti (fun x => -x) := fun a b h => by simp; omega

/-- the counters that only compare ranges -/
def C02.Counter.rangeOnly : Counter → Bool
  | .simple | .rainflow | .rangepair | .fourpoint => true
  | _ => false

/-- the counters that only compare ranges commute with every similarity, increasing or decreasing; the three
that look at the order of the values (`run_map_inc`) only with the increasing ones -/
theorem run_map_range {k f} (c : Counter) (hc : c.rangeOnly = true) (s : Sim k f) (hm : Inc f ∨ Anti f)
    (h : List Int) : c.run (h.map f) = (c.run h).map (Cyc.map f) := by
  cases c with
  | simple => exact simpleRange_map f hm h
  | rainflow => exact rainflow_map s hm h
  | rangepair => exact rangePair_map s hm h
  | fourpoint => exact fourPoint_map s hm h
  | _ => cases hc

theorem run_map_inc {k f} (c : Counter) (s : Sim k f) (hi : Inc f) (h : List Int) :
    c.run (h.map f) = (c.run h).map (Cyc.map f) := by
  cases c with
  | repeating => exact rainflowRepeat_map s hi h
  | rychlik => exact rychlik_map hi h
  | johannesson => exact johannesson_map hi h
  | _ => exact run_map_range _ rfl s (Or.inl hi) h

theorem table_run_map {k f} {c : Counter} {h : List Int} (s : Sim k f)
    (e : c.run (h.map f) = (c.run h).map (Cyc.map f)) :
    tableScaledOK k (table (c.run h)) (table (c.run (h.map f))) = true := by
  simp [tableScaledOK, e, table_map s]

/-- adding a constant leaves every range count unchanged -/
theorem C03_shift (c : Counter) (d : Int) (h : List Int) :
    tableScaledOK 1 (table (c.run h)) (table (c.run (h.map (· + d)))) = true :=
  table_run_map (sim_shift d) (run_map_inc c (sim_shift d) (inc_shift d) h)

/-- scaling by `c > 0` scales every counted range by `c` -/
theorem C03_scale (k : Counter) (c : Nat) (hc : 0 < c) (h : List Int) :
    tableScaledOK c (table (k.run h)) (table (k.run (h.map (fun x => (c : Int) * x)))) = true :=
  table_run_map (sim_scale c hc) (run_map_inc k (sim_scale c hc) (inc_scale c hc) h)

/-- negating the history leaves the simple-range, rainflow, range-pair and four-point counts unchanged -/
theorem C03_negate (k : Counter) (hk : k.rangeOnly = true) (h : List Int) :
    tableScaledOK 1 (table (k.run h)) (table (k.run (h.map (fun x => -x)))) = true :=
  table_run_map sim_neg (run_map_range k hk sim_neg (Or.inr anti_neg) h)

/-- level crossing and peak counting under offset and positive scale: the events move with the load -/
theorem C03_level_similar {k f} (s : Sim k f) (hi : Inc f) (h : List Int) (ref : Int) (levels : List Int) :
    levelCrossingSeq (h.map f) (f ref) (levels.map f) = (levelCrossingSeq h ref levels).map f :=
  levelCrossingSeq_map hi h ref levels

theorem C03_peak_similar {k f} (s : Sim k f) (hi : Inc f) (h : List Int) (ref : Int) :
    peakSeq (h.map f) (f ref) = (peakSeq h ref).map f := peakSeq_map hi h ref

/-- reversing time leaves the simple-range count unchanged -/
theorem C03_reverse_simple (h : List Int) :
    tableScaledOK 1 (table (simpleRange h)) (table (simpleRange h.reverse)) = true := by
  have : table (simpleRange h.reverse) = table (simpleRange h) := by
    unfold simpleRange
    rw [pv_true_reverse, halves_reverse]
    exact table_eq_of_unitsAt _ _ fun k => by rw [unitsAt_reverse, unitsAt_map_swap]
  simp [tableScaledOK, this]

/-- the reversal clause for the three stack / scan procedures; proved as `C03_reverse` in Proofs/C03Reverse.lean -/
def C03.ReverseStatement : Prop :=
  ∀ h : List Int, table (rainflow h.reverse) = table (rainflow h) ∧
    table (fourPoint h.reverse) = table (fourPoint h) ∧ table (rychlik h.reverse) = table (rychlik h)

end FF
