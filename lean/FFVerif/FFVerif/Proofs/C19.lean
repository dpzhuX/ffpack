/-
C19 — property theorems: signal-conditioning utilities never invent data and bound their distortion.
`pv`, `hysteresis`, `digitize`, `aggregate` are the code-shaped models (tied to the Python by exact
correspondence on the dyadic grid).
-/
import FFVerif.Lemmas.Filter
import FFVerif.Lemmas.Signal
namespace FF
open C19


/-- the output is the sequence of strict turning points of the de-plateaued series, plus both ends
when asked -/
theorem C19_pv_spec (k : Bool) (h : List Int) : pvSpecOK k h (pv k h) = true := by
  cases k <;> simp [pvSpecOK, pv_true_eq_reversals, pv_false_eq_turning]

theorem C19_pv_alternates (h : List Int) (hc : isConstant h = false) : Zig (pv true h) := pv_zig h hc

theorem C19_pv_subsequence (k : Bool) (h : List Int) : (pv k h).Sublist h := pv_sublist k h

theorem C19_pv_idempotent (h : List Int) : pv true (pv true h) = pv true h := pv_true_idem h

/-- literal idempotence cannot hold for a function returning interior turning points only (its
output's own ends are dropped by a second pass); the form that holds, and is what the check
evaluates on the implementation: -/
theorem C19_pv_idempotent_noEnds (h : List Int) : pv false (pv true h) = pv false h := pv_false_of_pv_true h

theorem C19_pv_extremes (h : List Int) : pvExtremesOK h (pv true h) = true := by
  have := pv_true_extremes h
  simp [pvExtremesOK, this.1, this.2]


/-- every dropped point lies strictly within the gate of the last kept point; the first point is kept -/
theorem C19_hyst_gate (h : List Int) (gate : Int) (hg : 0 < gate) :
    Kept gate none h (hysteresis h gate) := hystGo_kept gate hg h none

theorem C19_hyst_subsequence (h : List Int) (gate : Int) (hg : 0 < gate) :
    (hysteresis h gate).Sublist h := (C19_hyst_gate h gate hg).sublist

theorem C19_hyst_first (h : List Int) (gate : Int) (hg : 0 < gate) :
    (hysteresis h gate).head? = h.head? := (C19_hyst_gate h gate hg).head

theorem C19_hyst_last (h : List Int) (gate : Int) : (hysteresis h gate).getLast? = h.getLast? :=
  hystGo_last gate h


/-- nearest multiple of the resolution, ties to even -/
theorem C19_digit_nearest (r : Int) (hr : 0 < r) (d : List Int) :
    ((d.zip (digitize r d)).all (fun p => digitOneOK r p.1 p.2)) = true :=
  List.all_eq_true.mpr fun p hp => by
    rw [digitize, ← List.map_prod_left_eq_zip] at hp
    obtain ⟨k, _, rfl⟩ := List.mem_map.mp hp
    exact digitOne_ok k r hr

theorem C19_digit_idempotent (r : Int) (hr : 0 < r) (d : List Int) :
    digitize r (digitize r d) = digitize r d := by
  simp only [digitize, List.map_map]
  apply List.map_congr_left
  intro k _
  simp [rhe_idem _ r hr]

theorem C19_digit_monotone (r : Int) (hr : 0 < r) (k k' : Int) (h : k ≤ k') :
    roundHalfEven k r * r ≤ roundHalfEven k' r * r :=
  Int.mul_le_mul_of_nonneg_right (rhe_mono k k' r hr h) (by omega)


theorem C19_agg (b : Int) (hb : 0 < b) (rows : List (Int × Nat)) :
    sumUnits (aggregate b rows) = sumUnits rows ∧
    ASorted (aggregate b rows) ∧
    (∀ p ∈ aggregate b rows, p.1 % b = 0) ∧
    (∀ r ∈ rows, ∃ p ∈ aggregate b rows, p.1 = binKey b r.1 ∧
      (0 ≤ r.1 → 2 * natAbsDiff r.1 p.1 ≤ b.natAbs)) := by
  have keys : ∀ k, k ∈ (aggregate b rows).map (·.1) ↔ ∃ r ∈ rows, binKey b r.1 = k := fun k => by
    simp [aggregate_eq, mem_keys_accAll]
  refine ⟨?_, aggregate_eq b rows ▸ accAll_sorted _ .nil, fun p hp => ?_, fun r hr => ?_⟩
  · simp [sumUnits, aggregate_eq, sum_accAll, List.map_map, Function.comp_def]
  · obtain ⟨r, _, e⟩ := (keys p.1).mp (List.mem_map_of_mem hp)
    exact e ▸ (binKey_spec b r.1 hb).1
  · obtain ⟨p, hp, e⟩ := List.mem_map.mp ((keys _).mpr ⟨r, hr, rfl⟩)
    exact ⟨p, hp, e, fun h0 => e ▸ (binKey_spec b r.1 hb).2 h0⟩

-- non-vacuity
example : hysteresis [2, 5, 3, 6, 2, 4, 1, 6, 1, 3, 1, 5, 3, 6, 3, 6, 4, 5, 2] 3 = [2, 5, 6, 2, 1, 6, 1, 5, 6, 3, 6, 2] := by
  simp [hysteresis, hystGo, skipUp, skipDown]
example : digitize 2 [1, 3, 5, -1, -3] = [0, 4, 4, 0, -4] := by decide
example : binKey 4 6 = 4 ∧ binKey 4 7 = 8 := by decide

end FF
