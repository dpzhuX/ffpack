/-
C10 — first-order reliability (`hlrfFORM`, `mvalFOSM`): one HL-RF step over an arbitrary real inner
product space (fixed points, exactness on affine limit states from ANY start, invariance under positive
rescaling); a linear limit state of normal marginals through the Nataf map is affine in U space with
gradient `w = Lᵀ D c`, `‖w‖² = cᵀ (D ρ D) c = Var[g]`, hence `β = E[g] / sd[g]` (for independent variables
the mean-value index); one variable, any marginal, `g x = x - cth`: `pf = Φ (-β) = F cth`.
-/
import Mathlib.Analysis.InnerProductSpace.Basic
import Mathlib.Analysis.InnerProductSpace.PiL2
import Mathlib.Data.Matrix.Mul
import Mathlib.Analysis.Real.Sqrt
import Mathlib.Tactic.NormNum
import Mathlib.Tactic.Ring
namespace FF

open scoped RealInnerProductSpace

section HLRF
variable {E : Type*} [NormedAddCommGroup E] [InnerProductSpace ℝ E]

/-- `beta = ( g( X ) - dot( u_prev, gPrime ) ) / norm( gPrime )` -/
noncomputable def hlrfBeta (Gu : ℝ) (grad u : E) : ℝ := (Gu - ⟪grad, u⟫) / ‖grad‖

/-- `u_new = -beta * alpha`, `alpha = gPrime / norm( gPrime )` -/
noncomputable def hlrfStep (Gu : ℝ) (grad u : E) : E :=
  -(hlrfBeta Gu grad u) • ((1 / ‖grad‖) • grad)

theorem hlrfStep_eq (Gu : ℝ) (grad u : E) :
    hlrfStep Gu grad u = -(hlrfBeta Gu grad u / ‖grad‖) • grad := by
  unfold hlrfStep
  rw [smul_smul, neg_mul, mul_one_div]

theorem C10_step_norm {grad : E} (hg : grad ≠ 0) (Gu : ℝ) (u : E) :
    ‖hlrfStep Gu grad u‖ = |hlrfBeta Gu grad u| := by
  rw [hlrfStep_eq, norm_smul, Real.norm_eq_abs, abs_neg, abs_div, abs_norm,
    div_mul_cancel₀ _ (norm_ne_zero_iff.mpr hg)]

/-- the new point solves the linearised equation `G u + ⟪grad, u_new - u⟫ = 0` -/
theorem C10_inner_step {grad : E} (hg : grad ≠ 0) (Gu : ℝ) (u : E) :
    ⟪grad, hlrfStep Gu grad u⟫ = ⟪grad, u⟫ - Gu := by
  have hn : ‖grad‖ ≠ 0 := norm_ne_zero_iff.mpr hg
  rw [hlrfStep_eq, real_inner_smul_right, real_inner_self_eq_norm_sq, sq, neg_mul, ← mul_assoc,
    div_mul_cancel₀ _ hn, hlrfBeta, div_mul_cancel₀ _ hn, neg_sub]

theorem C10_fixed_point {grad u : E} {Gu : ℝ} (hg : grad ≠ 0) (hfix : u = hlrfStep Gu grad u) :
    Gu = 0 ∧ u = -(hlrfBeta Gu grad u) • ((1 / ‖grad‖) • grad) ∧ ‖u‖ = |hlrfBeta Gu grad u| := by
  refine ⟨?_, hfix, ?_⟩
  · have h := C10_inner_step hg Gu u
    rw [← hfix] at h
    exact sub_eq_self.mp h.symm
  · conv_lhs => rw [hfix]
    exact C10_step_norm hg Gu u

theorem C10_linear_one_step {a : E} (b : ℝ) (ha : a ≠ 0) (u : E) :
    hlrfBeta (⟪a, u⟫ + b) a u = b / ‖a‖ ∧
    hlrfStep (⟪a, u⟫ + b) a u = -(b / ‖a‖ ^ 2) • a ∧
    ⟪a, hlrfStep (⟪a, u⟫ + b) a u⟫ + b = 0 ∧
    hlrfStep (⟪a, hlrfStep (⟪a, u⟫ + b) a u⟫ + b) a (hlrfStep (⟪a, u⟫ + b) a u)
      = hlrfStep (⟪a, u⟫ + b) a u := by
  have hβ : ∀ v : E, hlrfBeta (⟪a, v⟫ + b) a v = b / ‖a‖ := fun v => by
    rw [hlrfBeta, add_sub_cancel_left]
  have hs : ∀ v : E, hlrfStep (⟪a, v⟫ + b) a v = -(b / ‖a‖ ^ 2) • a := fun v => by
    rw [hlrfStep_eq, hβ, div_div, ← sq]
  refine ⟨hβ u, hs u, ?_, by rw [hs, hs]⟩
  rw [C10_inner_step ha]
  ring

theorem C10_scale_invariance {k : ℝ} (hk : 0 < k) (Gu : ℝ) {grad : E} (hg : grad ≠ 0) (u : E) :
    hlrfBeta (k * Gu) (k • grad) u = hlrfBeta Gu grad u ∧
    hlrfStep (k * Gu) (k • grad) u = hlrfStep Gu grad u := by
  have hβ : hlrfBeta (k * Gu) (k • grad) u = hlrfBeta Gu grad u := by
    rw [hlrfBeta, hlrfBeta, real_inner_smul_left, norm_smul_of_nonneg hk.le, ← mul_sub, mul_div_mul_left _ _ hk.ne']
  refine ⟨hβ, ?_⟩
  rw [hlrfStep_eq, hlrfStep_eq, hβ, norm_smul_of_nonneg hk.le, smul_smul, neg_mul, div_mul_eq_mul_div, mul_comm _ k,
    mul_div_mul_left _ _ hk.ne']

end HLRF

section LinearGaussian
open Matrix
variable {n : ℕ}

theorem diagonal_mulVec_eq_vecMul (σ c : Fin n → ℝ) : (diagonal σ).mulVec c = c ᵥ* diagonal σ := by
  rw [← vecMul_transpose, diagonal_transpose]

theorem C10_linear_gaussian_affine (L : Matrix (Fin n) (Fin n) ℝ) (σ μ c : Fin n → ℝ) (d : ℝ)
    (u : Fin n → ℝ) :
    c ⬝ᵥ (μ + (diagonal σ).mulVec (L.mulVec u)) + d
      = (Lᵀ.mulVec ((diagonal σ).mulVec c)) ⬝ᵥ u + (c ⬝ᵥ μ + d) := by
  have h : c ⬝ᵥ ((diagonal σ).mulVec (L.mulVec u)) = (Lᵀ.mulVec ((diagonal σ).mulVec c)) ⬝ᵥ u := by
    rw [dotProduct_mulVec, dotProduct_mulVec, mulVec_transpose, diagonal_mulVec_eq_vecMul]
  rw [dotProduct_add, h]
  ring

theorem C10_variance (L ρ : Matrix (Fin n) (Fin n) ℝ) (σ c : Fin n → ℝ) (hL : L * Lᵀ = ρ) :
    (Lᵀ.mulVec ((diagonal σ).mulVec c)) ⬝ᵥ (Lᵀ.mulVec ((diagonal σ).mulVec c))
      = c ⬝ᵥ ((diagonal σ * ρ * diagonal σ).mulVec c) := by
  rw [← hL, ← mulVec_mulVec, ← mulVec_mulVec, ← mulVec_mulVec, dotProduct_mulVec c, ← diagonal_mulVec_eq_vecMul,
    dotProduct_mulVec _ L, ← mulVec_transpose]

theorem C10_inner_toLp (w u : Fin n → ℝ) :
    ⟪(WithLp.toLp 2 w : EuclideanSpace ℝ (Fin n)), WithLp.toLp 2 u⟫ = w ⬝ᵥ u := by
  rw [EuclideanSpace.inner_toLp_toLp, star_trivial, dotProduct_comm]

theorem C10_linear_gaussian_beta (L ρ : Matrix (Fin n) (Fin n) ℝ) (σ μ c : Fin n → ℝ) (d : ℝ)
    (hL : L * Lᵀ = ρ) (hsd : 0 < Real.sqrt (c ⬝ᵥ ((diagonal σ * ρ * diagonal σ).mulVec c)))
    (u : Fin n → ℝ) :
    hlrfBeta (c ⬝ᵥ (μ + (diagonal σ).mulVec (L.mulVec u)) + d)
        (WithLp.toLp 2 (Lᵀ.mulVec ((diagonal σ).mulVec c)) : EuclideanSpace ℝ (Fin n))
        (WithLp.toLp 2 u)
      = (c ⬝ᵥ μ + d) / Real.sqrt (c ⬝ᵥ ((diagonal σ * ρ * diagonal σ).mulVec c)) := by
  rw [C10_linear_gaussian_affine, hlrfBeta, C10_inner_toLp, add_sub_cancel_left, norm_eq_sqrt_real_inner, C10_inner_toLp,
    C10_variance L ρ σ c hL]

/-- the same in coordinates, `w = Lᵀ D c` -/
theorem C10_linear_gaussian_beta' (L ρ : Matrix (Fin n) (Fin n) ℝ) (σ μ c : Fin n → ℝ) (d : ℝ)
    (hL : L * Lᵀ = ρ) (u : Fin n → ℝ) :
    ((c ⬝ᵥ (μ + (diagonal σ).mulVec (L.mulVec u)) + d)
        - (Lᵀ.mulVec ((diagonal σ).mulVec c)) ⬝ᵥ u)
        / Real.sqrt ((Lᵀ.mulVec ((diagonal σ).mulVec c)) ⬝ᵥ (Lᵀ.mulVec ((diagonal σ).mulVec c)))
      = (c ⬝ᵥ μ + d) / Real.sqrt (c ⬝ᵥ ((diagonal σ * ρ * diagonal σ).mulVec c)) := by
  rw [C10_linear_gaussian_affine, C10_variance L ρ σ c hL, add_sub_cancel_left]

theorem C10_fosm_variance (σ c : Fin n → ℝ) :
    c ⬝ᵥ ((diagonal σ * (1 : Matrix (Fin n) (Fin n) ℝ) * diagonal σ).mulVec c)
      = ∑ i, (c i * σ i) ^ 2 := by
  rw [mul_one, diagonal_mul_diagonal]
  simp only [dotProduct, mulVec_diagonal]
  exact Finset.sum_congr rfl fun i _ => by ring

theorem C10_fosm_agrees (σ μ c : Fin n → ℝ) (d : ℝ) :
    (c ⬝ᵥ μ + d) / Real.sqrt (∑ i, (c i * σ i) ^ 2)
      = (c ⬝ᵥ μ + d)
        / Real.sqrt (c ⬝ᵥ ((diagonal σ * (1 : Matrix (Fin n) (Fin n) ℝ) * diagonal σ).mulVec c)) := by
  rw [C10_fosm_variance]

end LinearGaussian

/-- marginal CDF `F` with quantile `Finv`: the U-space limit state `G u = Finv (Φ u) - cth` vanishes at
`u* = Φinv (F cth)`; with the increasing orientation `u* = -β`, so `pf = Φ (-β) = F cth`. -/
theorem C10_one_variable (F Finv Φ Φinv : ℝ → ℝ) (cth : ℝ)
    (hΦ : Φ (Φinv (F cth)) = F cth) (hF : Finv (F cth) = cth) :
    Finv (Φ (Φinv (F cth))) - cth = 0 ∧
    ∀ β : ℝ, Φinv (F cth) = -β → Φ (-β) = F cth := by
  refine ⟨by rw [hΦ, hF, sub_self], ?_⟩
  intro β hβ
  rw [← hβ, hΦ]

theorem C10_one_variable_pf (F Φ Φinv : ℝ → ℝ) (cth : ℝ) (hΦ : Φ (Φinv (F cth)) = F cth) :
    Φ (-(-Φinv (F cth))) = F cth := by
  rw [neg_neg, hΦ]

/-- link to the step in `E = ℝ`: a fixed point `u` with positive gradient has `u = -β`; `hinj` (`Finv ∘ Φ`
strictly increasing) makes the zero of `G` unique, so `Φ (-β) = F cth`. -/
theorem C10_one_variable_hlrf (F Finv Φ Φinv : ℝ → ℝ) (cth : ℝ)
    (hΦ : Φ (Φinv (F cth)) = F cth) (hF : Finv (F cth) = cth)
    (hinj : ∀ u v : ℝ, Finv (Φ u) - cth = Finv (Φ v) - cth → u = v)
    {g' u : ℝ} (hg' : 0 < g') (hfix : u = hlrfStep (Finv (Φ u) - cth) g' u) :
    Φ (-(hlrfBeta (Finv (Φ u) - cth) g' u)) = F cth := by
  obtain ⟨hG, hu, -⟩ := C10_fixed_point hg'.ne' hfix
  have hunit : (1 / ‖g'‖) • g' = (1 : ℝ) := by
    rw [Real.norm_eq_abs, abs_of_pos hg', smul_eq_mul, one_div, inv_mul_cancel₀ hg'.ne']
  rw [hunit, smul_eq_mul, mul_one] at hu
  have hustar : u = Φinv (F cth) := by
    apply hinj
    rw [hG, hΦ, hF, sub_self]
  rw [← hu, hustar, hΦ]

/-- `C10_linear_one_step` in `ℝ²`: `a = (1,1)`, `b = -1`, design point `(1/2, 1/2)` on `x + y - 1 = 0` -/
example :
    let a : Fin 2 → ℝ := ![1, 1]
    let b : ℝ := -1
    a ⬝ᵥ a = 2 ∧ -(b / (a ⬝ᵥ a)) • a = ![1 / 2, 1 / 2] ∧ a ⬝ᵥ (-(b / (a ⬝ᵥ a)) • a) + b = 0 := by
  intro a b
  have h2 : a ⬝ᵥ a = 2 := by norm_num [a, dotProduct, Fin.sum_univ_two]
  rw [dotProduct_smul, h2]
  norm_num [a, b]

/-- … and in `E = ℝ`: `G v = 2 v - 6` from `10`: `β = -3`, the step lands on the root `3` -/
example : hlrfBeta ((2 : ℝ) * 10 + -6) (2 : ℝ) (10 : ℝ) = -3 ∧
    hlrfStep ((2 : ℝ) * 10 + -6) (2 : ℝ) (10 : ℝ) = 3 := by
  obtain ⟨h1, h2, -⟩ := C10_linear_one_step (a := (2 : ℝ)) (-6) two_ne_zero (10 : ℝ)
  rw [show ⟪(2 : ℝ), (10 : ℝ)⟫ = 2 * 10 from mul_comm _ _] at h1 h2
  rw [h1, h2]
  norm_num

/-- `n = 2`, independent, `σ = (3, 4)`, `c = (1, 1)`: `Var[g] = 25` -/
example : (![1, 1] : Fin 2 → ℝ) ⬝ᵥ
    ((Matrix.diagonal ![3, 4] * (1 : Matrix (Fin 2) (Fin 2) ℝ) * Matrix.diagonal ![3, 4]).mulVec
      ![1, 1]) = 25 := by
  rw [C10_fosm_variance]; norm_num [Fin.sum_univ_two]

end FF
