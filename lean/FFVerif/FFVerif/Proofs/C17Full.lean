/-
C17 — the statements of `spectralRepresentation` in front of the double loop, on the executable model `Spectral.synthFull`
(sample count, grid spacing, bandwidth, stride, phases; compared with the implementation through the driver command `synthfull`).
`round` is a parameter: the sample count holds for any rounding function, the stride is at least 1 (the `while` loop advances)
for any with `|round x − x| ≤ 1/2`.
-/
import FFVerif.Proofs.C17
namespace FF
open Spectral

theorem C17f_unfold (rnd : ℝ → ℕ) (fs time : ℝ) (req : Option ℝ) (f0 f1 : ℝ) (rest psd randn : List ℝ) :
    synthFull rnd fs time req (f0 :: f1 :: rest) psd randn =
      synth fs (bandwidth req (f1 - f0)) (stride rnd (bandwidth req (f1 - f0)) (f1 - f0)) (zip3 (f0 :: f1 :: rest) psd randn)
        ((List.range (rnd (fs * time))).map (fun j : ℕ => (j : ℝ))) := by
  -- the sample indices `Transc.lit j 0` evaluate to `(j : ℝ)`
  simp only [synthFull, real_scalar]

theorem C17f_length (rnd : ℝ → ℕ) (fs time : ℝ) (req : Option ℝ) (f0 f1 : ℝ) (rest psd randn : List ℝ) :
    (synthFull rnd fs time req (f0 :: f1 :: rest) psd randn).length = rnd (fs * time) := by
  rw [C17f_unfold, C17_length, List.length_map, List.length_range]

theorem C17f_bandwidth_none (df : ℝ) : bandwidth (none : Option ℝ) df = df := rfl

/-- "deal with freqBandwidth" at the reals: a request is raised to the grid spacing -/
theorem bandwidth_some (b df : ℝ) : bandwidth (some b) df = max b df := by
  show (if Transc.ltb b df then df else b) = max b df
  by_cases h : b < df
  · rw [if_pos ((ltb_real b df).mpr h), max_eq_right h.le]
  · rw [if_neg (mt (ltb_real b df).mp h), max_eq_left (not_lt.mp h)]

theorem C17f_bandwidth_ge (b df : ℝ) (h : df ≤ b) : bandwidth (some b) df = b := by
  rw [bandwidth_some, max_eq_left h]

theorem C17f_bandwidth_lt (b df : ℝ) (h : b < df) : bandwidth (some b) df = df := by
  rw [bandwidth_some, max_eq_right h.le]

theorem C17f_bandwidth_ge_df (req : Option ℝ) (df : ℝ) : df ≤ bandwidth req df := by
  cases req with
  | none => exact le_rfl
  | some b => rw [bandwidth_some]; exact le_max_right b df

theorem C17f_entry (rnd : ℝ → ℕ) (fs time : ℝ) (req : Option ℝ) (f0 f1 : ℝ) (rest psd randn : List ℝ) (k : ℕ)
    (hk : k < rnd (fs * time)) :
    (synthFull rnd fs time req (f0 :: f1 :: rest) psd randn)[k]'(by rw [C17f_length]; exact hk) =
      ampAt (pick (stride rnd (bandwidth req (f1 - f0)) (f1 - f0)) (zip3 (f0 :: f1 :: rest) psd randn) 0)
        (bandwidth req (f1 - f0)) ((k : ℝ) / fs) := by
  simp only [C17f_unfold]
  exact C17_entry_range _ _ _ _ _ k hk

theorem C17f_bound (rnd : ℝ → ℕ) (fs time : ℝ) (req : Option ℝ) (f0 f1 : ℝ) (rest psd randn : List ℝ) (k : ℕ)
    (hk : k < rnd (fs * time)) :
    |(synthFull rnd fs time req (f0 :: f1 :: rest) psd randn)[k]'(by rw [C17f_length]; exact hk)| ≤
      ((pick (stride rnd (bandwidth req (f1 - f0)) (f1 - f0)) (zip3 (f0 :: f1 :: rest) psd randn) 0).map
        (fun c => Real.sqrt (2 * c.2.1 * bandwidth req (f1 - f0)))).sum := by
  rw [C17f_entry rnd fs time req f0 f1 rest psd randn k hk]
  exact C17_bound _ _ _

theorem C17f_stride_pos (rnd : ℝ → ℕ) (hr : ∀ x, |(rnd x : ℝ) - x| ≤ 1 / 2) (req : Option ℝ) (df : ℝ) (hdf : 0 < df) :
    1 ≤ stride rnd (bandwidth req df) df := by
  -- `1 ≤ bw / df ≤ round (bw / df) + 1/2`, so the rounding is at least `1/2`, hence positive
  have h1 : 1 ≤ bandwidth req df / df := (one_le_div hdf).mpr (C17f_bandwidth_ge_df req df)
  have h2 := neg_le_sub_iff_le_add.mp (abs_le.mp (hr (bandwidth req df / df))).1
  exact Nat.cast_pos.mp ((by norm_num : (0 : ℝ) < 1 - 1 / 2).trans_le (sub_le_iff_le_add.mpr (h1.trans h2)))

/-- non-vacuity: one request below the spacing, one above -/
example : bandwidth (some (1 / 4 : ℝ)) (1 / 2) = 1 / 2 ∧ bandwidth (some (3 / 2 : ℝ)) (1 / 2) = 3 / 2 :=
  ⟨C17f_bandwidth_lt _ _ (by norm_num), C17f_bandwidth_ge _ _ (by norm_num)⟩

end FF
