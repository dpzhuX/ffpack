/-
C10 — `dg = None`: the numerical gradient inside the executable models of `hlrfFORM` and `mvalFOSM`, for quadratic limit states.

With `dg = None` the implementation differentiates `g` by the central-difference stencil (`gradient`, model `Deriv.partialD`).  For a
quadratic (in particular a linear) limit state `g( y ) = c0 + b·y + yᵀ Q y` the stencil is exact at every point
(`C20h_grad_quadratic`), so at the reals the WHOLE loop of the model run on the numerical gradient — every iterate, the outcome, the
number of steps, the returned triple — is the loop run on the analytic gradient, for every regenerated first-derivative table and every
non-zero step, and likewise the mean-value index.  All theorems of `C10Loop` about linear limit states therefore hold for
`dg = None` as well.
-/
import FFVerif.Proofs.C20Hess
import FFVerif.Proofs.C10Loop
namespace FF.Form
open FF.Linalg FF.Nataf FF.Deriv

theorem numgrad_quadratic (t : Nat × Nat × List Int × Int) (ht : t ∈ Gen.diffTables) (ht1 : t.1 = 1) (hm : 3 ≤ t.2.1)
    (d : Nat) (c0 : ℝ) (b : Nat → ℝ) (Q : Nat → Nat → ℝ) (dx : ℝ) (hdx : dx ≠ 0) :
    (fun (x : Vec ℝ) (i : Nat) => partialD t (quad d c0 b Q) i x dx) = fun x i => quadGrad d b Q i x := by
  funext x i
  exact C20h_grad_quadratic t ht ht1 hm d c0 b Q i x dx hdx

theorem C10n_hlrf_numgrad_quadratic (T : Model ℝ) (t : Nat × Nat × List Int × Int) (ht : t ∈ Gen.diffTables) (ht1 : t.1 = 1)
    (hm : 3 ≤ t.2.1) (d : Nat) (c0 : ℝ) (b : Nat → ℝ) (Q : Nat → Nat → ℝ) (dx : ℝ) (hdx : dx ≠ 0) (tol : ℝ) (iter : Nat) :
    hlrf T (quad d c0 b Q) (fun x i => partialD t (quad d c0 b Q) i x dx) tol iter =
      hlrf T (quad d c0 b Q) (fun x i => quadGrad d b Q i x) tol iter := by
  rw [numgrad_quadratic t ht ht1 hm d c0 b Q dx hdx]

theorem C10n_trace_numgrad_quadratic (T : Model ℝ) (t : Nat × Nat × List Int × Int) (ht : t ∈ Gen.diffTables) (ht1 : t.1 = 1)
    (hm : 3 ≤ t.2.1) (d : Nat) (c0 : ℝ) (b : Nat → ℝ) (Q : Nat → Nat → ℝ) (dx : ℝ) (hdx : dx ≠ 0) (tol : ℝ) (fuel : Nat) (u : Vec ℝ) :
    trace T (quad d c0 b Q) (fun x i => partialD t (quad d c0 b Q) i x dx) tol fuel u =
      trace T (quad d c0 b Q) (fun x i => quadGrad d b Q i x) tol fuel u := by
  rw [numgrad_quadratic t ht ht1 hm d c0 b Q dx hdx]

theorem C10n_fosm_numgrad_quadratic (n : Nat) (t : Nat × Nat × List Int × Int) (ht : t ∈ Gen.diffTables) (ht1 : t.1 = 1)
    (hm : 3 ≤ t.2.1) (d : Nat) (c0 : ℝ) (b : Nat → ℝ) (Q : Nat → Nat → ℝ) (dx : ℝ) (hdx : dx ≠ 0) (mus sigmas : Vec ℝ) :
    fosm n (quad d c0 b Q) (fun x i => partialD t (quad d c0 b Q) i x dx) mus sigmas =
      fosm n (quad d c0 b Q) (fun x i => quadGrad d b Q i x) mus sigmas := by
  rw [numgrad_quadratic t ht ht1 hm d c0 b Q dx hdx]

/-- for a LINEAR limit state (`Q = 0`) the gradient is the coefficient vector inside the dimension -/
theorem quadGrad_linear (d : Nat) (b : Nat → ℝ) (i : Nat) (hi : i < d) (x : Vec ℝ) :
    quadGrad d b (fun _ _ => 0) i x = b i := by
  rw [quadGrad_closed d b _ i hi x]
  simp only [add_zero, zero_mul, Finset.sum_const_zero]

/-- non-vacuity: `g = 3 - y0 - 2 y1`, three-point table, step `1e-6`-like `1/1000000`: the numerical gradient at any point is `( -1, -2 )` -/
example (x : Vec ℝ) : partialD (1, 3, [-1, 0, 1], 2) (quad 2 3 (fun k => if k = 0 then -1 else -2) (fun _ _ => 0)) 1 x (1 / 1000000) = -2 := by
  rw [C20h_grad_quadratic _ (by decide) rfl (by decide) 2 3 _ _ 1 x _ (by norm_num), quadGrad_linear 2 _ 1 (by decide) x]
  exact if_neg Nat.one_ne_zero

end FF.Form
