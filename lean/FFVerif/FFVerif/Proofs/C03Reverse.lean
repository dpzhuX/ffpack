/-
C03 — time reversal for the four-point, rainflow and Rychlik counters (the conjuncts of
`C03.ReverseStatement`), via the confluence of four-point extraction (Lemmas/Confl.lean).
-/
import FFVerif.Proofs.C03
import FFVerif.Lemmas.RyNormal
namespace FF

theorem fourPoint_red (h : List Int) (hc : isConstant h = false) :
    Red (pv true h) (fourPoint h) (fourPointFull h).1 := by
  obtain ⟨cs, r, e⟩ := fpGo_red (pv true h) [] (pv_zig h hc)
  have : fourPoint h = cs := by simpa [fourPoint, fourPointFull] using e
  rw [this]; exact r

/-- a constant history is its own reversal, so a count is symmetric under time reversal as soon as
its histogram is on non-constant histories -/
theorem table_reverse (f : List Int → List Cyc)
    (H : ∀ h, isConstant h = false → isConstant h.reverse = false →
      ∀ k, unitsAt (f h.reverse) k = unitsAt (f h) k) (h : List Int) : table (f h.reverse) = table (f h) := by
  by_cases hc : isConstant h = true
  · rw [reverse_of_isConstant hc]
  · have hc' : isConstant h = false := by simpa using hc
    exact table_eq_of_unitsAt _ _ (H h hc' (by rw [isConstant_reverse]; exact hc'))

/-- C03, time reversal, four-point counting -/
theorem C03_reverse_fourPoint (h : List Int) : table (fourPoint h.reverse) = table (fourPoint h) :=
  table_reverse fourPoint (fun h hc hcr => by
    have r' := fourPoint_red h.reverse hcr
    rw [pv_true_reverse] at r'
    exact ((fourPoint_red h hc).reverse_confluent r').2) h

theorem C03_reverse_fourPoint_residue (h : List Int) (hc : isConstant h = false) :
    (fourPointFull h.reverse).1 = (fourPointFull h).1.reverse := by
  have r := fourPoint_red h hc
  have r' := fourPoint_red h.reverse (by rw [isConstant_reverse]; exact hc)
  rw [pv_true_reverse] at r'
  exact (r.reverse_confluent r').1

/-- the rainflow histogram of a non-constant history: cycles of any maximal four-point extraction
sequence on the reversal sequence, plus the half cycles of the four-point residue -/
theorem rainflow_red (h : List Int) (hc : isConstant h = false) {cs N} (r : Red (pv true h) cs N) (k : Nat) :
    unitsAt (rainflow h) k = unitsAt cs k + unitsAt (halves N) k := by
  rw [rainflow_eq_astm]; exact astm_red (pv_zig h hc) r k

theorem rainflow_eq_fourPoint_residue (h : List Int) (hc : isConstant h = false) :
    table (rainflow h) = table (fourPoint h ++ halves (fourPointFull h).1) :=
  table_eq_of_unitsAt _ _ (fun k => by rw [rainflow_red h hc (fourPoint_red h hc), unitsAt_append])

/-- C03, time reversal, rainflow counting -/
theorem C03_reverse_rainflow (h : List Int) : table (rainflow h.reverse) = table (rainflow h) :=
  table_reverse rainflow (fun h hc hcr k => by
    rw [rainflow_eq_astm, rainflow_eq_astm, astm_T _ (pv_zig _ hcr), astm_T _ (pv_zig h hc),
      pv_true_reverse, T_reverse]) h

theorem rychlik_red (h : List Int) (hc : isConstant h = false) {cs N} (r : Red (pv true h) cs N) (k : Nat) :
    unitsAt (rychlik h) k = unitsAt cs k + unitsAt (peaksGo ryF [] N) k :=
  ry_red r (pv_zig h hc) k

/-- C03, time reversal, Rychlik counting (equal-height peaks included: the pairing of tops and
bottoms may change, the histogram of ranges does not) -/
theorem C03_reverse_rychlik (h : List Int) : table (rychlik h.reverse) = table (rychlik h) :=
  table_reverse rychlik (fun h hc hcr k => by
    obtain ⟨cs, N, r⟩ := Red.exists (pv true h)
    have r' : Red (pv true h.reverse) (cs.map Cyc.swap) N.reverse := by
      rw [pv_true_reverse]; exact r.reverse
    rw [rychlik_red h hc r, rychlik_red h.reverse hcr r', unitsAt_map_swap,
      ry_normal_reverse N r.normal (r.zig (pv_zig h hc))]) h

/-- C03, time reversal (the clause stated in Proofs/C03.lean as `C03.ReverseStatement`) -/
theorem C03_reverse : C03.ReverseStatement :=
  fun h => ⟨C03_reverse_rainflow h, C03_reverse_fourPoint h, C03_reverse_rychlik h⟩

end FF
