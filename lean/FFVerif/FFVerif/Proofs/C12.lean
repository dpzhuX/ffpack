/-
C12 — property theorems about the closing formulas of the second-order reliability estimates
(`FF.Sorm.*`, FFVerif/Model/Sorm.lean), at the reals, and the rotation/ordering invariance of the
principal-curvature extraction.
-/
import Mathlib.Tactic.Ring
import Mathlib.Tactic.NormNum
import Mathlib.Tactic.Linarith
import Mathlib.Algebra.BigOperators.Group.List.Basic
import Mathlib.Algebra.Order.BigOperators.GroupWithZero.List
import Mathlib.Data.List.Perm.Basic
import Mathlib.Data.Matrix.Block
import Mathlib.LinearAlgebra.Matrix.NonsingularInverse
import Mathlib.LinearAlgebra.Matrix.Charpoly.Basic
import Mathlib.Analysis.SpecialFunctions.Pow.Real
import FFVerif.Lemmas.RealScalar
import FFVerif.Model.Sorm
namespace FF
open Sorm

theorem sorm_one_real : (Sorm.one : ℝ) = 1 := by
  unfold Sorm.one; simp only [lit_real, Nat.cast_one, pow_zero, div_one]

theorem sorm_negHalf_real : (Sorm.negHalf : ℝ) = -(1 / 2 : ℝ) := by
  unfold Sorm.negHalf; simp only [lit_real]; norm_num

theorem curvProd_eq_prod (c : ℝ) (ks : List ℝ) :
    curvProd c ks = (ks.map (fun k => (1 + c * k) ^ (-(1 / 2 : ℝ)))).prod := by
  rw [List.prod_eq_foldl, List.foldl_map]
  simp only [curvProd, rpow_real, sorm_one_real, sorm_negHalf_real]

theorem curvProd_zero_curv (c : ℝ) (ks : List ℝ) (h : ∀ k ∈ ks, k = 0) : curvProd c ks = 1 := by
  rw [curvProd_eq_prod]
  apply List.prod_eq_one
  intro x hx
  obtain ⟨k, hk, rfl⟩ := List.mem_map.1 hx
  rw [h k hk, mul_zero, add_zero, Real.one_rpow]

/-- zero curvature: all three second-order estimates equal the first-order `Φ(-β)` -/
theorem C12_zero_curvature (beta formPf pdfB cdfB : ℝ) (ks : List ℝ) (h : ∀ k ∈ ks, k = 0) :
    breitung beta formPf ks = formPf ∧ hrack formPf pdfB cdfB ks = formPf ∧
      tvedt beta formPf pdfB ks = formPf := by
  refine ⟨?_, ?_, ?_⟩
  · unfold breitung; rw [curvProd_zero_curv _ _ h, mul_one]
  · unfold hrack; rw [curvProd_zero_curv _ _ h, mul_one]
  · unfold tvedt
    simp only [curvProd_zero_curv _ _ h]
    ring

theorem curvProd_perm (c : ℝ) {ks ks' : List ℝ} (h : ks.Perm ks') : curvProd c ks = curvProd c ks' := by
  rw [curvProd_eq_prod, curvProd_eq_prod]
  exact (h.map _).prod_eq

/-- the estimates do not depend on how the principal axes are ordered -/
theorem C12_permutation (beta formPf pdfB cdfB : ℝ) {ks ks' : List ℝ} (h : ks.Perm ks') :
    breitung beta formPf ks = breitung beta formPf ks' ∧
      hrack formPf pdfB cdfB ks = hrack formPf pdfB cdfB ks' ∧
      tvedt beta formPf pdfB ks = tvedt beta formPf pdfB ks' := by
  unfold breitung hrack tvedt
  simp only [curvProd_perm _ h]
  exact ⟨trivial, trivial, trivial⟩

theorem C12_breitung_formula (beta formPf : ℝ) (ks : List ℝ) :
    breitung beta formPf ks = formPf * (ks.map (fun k => (1 + beta * k) ^ (-(1 / 2 : ℝ)))).prod := by
  unfold breitung; rw [curvProd_eq_prod]

theorem C12_hrack_formula (formPf pdfB cdfB : ℝ) (ks : List ℝ) :
    hrack formPf pdfB cdfB ks =
      formPf * (ks.map (fun k => (1 + pdfB / cdfB * k) ^ (-(1 / 2 : ℝ)))).prod := by
  unfold hrack; rw [curvProd_eq_prod]

theorem curvProd_le_one (c : ℝ) (ks : List ℝ) (hc : 0 < c) (hk : ∀ k ∈ ks, 0 ≤ k) :
    curvProd c ks ≤ 1 := by
  have h1 : ∀ k ∈ ks, (1 : ℝ) ≤ 1 + c * k := fun k hkm => le_add_of_nonneg_right (mul_nonneg hc.le (hk k hkm))
  rw [curvProd_eq_prod]
  refine (List.prod_map_le_prod_map₀ _ (fun _ => 1) (fun k hkm => Real.rpow_nonneg (zero_le_one.trans (h1 k hkm)) _)
    (fun k hkm => Real.rpow_le_one_of_one_le_of_nonpos (h1 k hkm) (by norm_num))).trans_eq ?_
  rw [List.map_const', List.prod_replicate, one_pow]

theorem one_le_curvProd (c : ℝ) (ks : List ℝ) (hc : 0 < c) (hk : ∀ k ∈ ks, -1 / c < k ∧ k ≤ 0) :
    1 ≤ curvProd c ks := by
  rw [curvProd_eq_prod]
  -- every factor is `≥ 1`: its base lies in `(0, 1]` and the exponent is negative
  refine List.one_le_prod fun x hx => ?_
  obtain ⟨k, hkm, rfl⟩ := List.mem_map.1 hx
  obtain ⟨hlo, hhi⟩ := hk k hkm
  exact Real.one_le_rpow_of_pos_of_le_one_of_nonpos (neg_lt_iff_pos_add'.mp ((div_lt_iff₀' hc).mp hlo))
    (add_le_of_nonpos_right (mul_nonpos_of_nonneg_of_nonpos hc.le hhi)) (by norm_num)

/-- curvature bending the surface away from the origin lowers the estimate -/
theorem C12_sign_away (c formPf : ℝ) (ks : List ℝ) (hc : 0 < c) (hpf : 0 ≤ formPf)
    (hk : ∀ k ∈ ks, 0 ≤ k) : formPf * curvProd c ks ≤ formPf :=
  mul_le_of_le_one_right hpf (curvProd_le_one c ks hc hk)

/-- curvature bending the surface towards the origin raises the estimate -/
theorem C12_sign_towards (c formPf : ℝ) (ks : List ℝ) (hc : 0 < c) (hpf : 0 ≤ formPf)
    (hk : ∀ k ∈ ks, -1 / c < k ∧ k ≤ 0) : formPf ≤ formPf * curvProd c ks :=
  le_mul_of_one_le_right hpf (one_le_curvProd c ks hc hk)

theorem C12_sign_away_breitung (beta formPf : ℝ) (ks : List ℝ) (hb : 0 < beta) (hpf : 0 ≤ formPf)
    (hk : ∀ k ∈ ks, 0 ≤ k) : breitung beta formPf ks ≤ formPf :=
  C12_sign_away beta formPf ks hb hpf hk

theorem C12_sign_towards_breitung (beta formPf : ℝ) (ks : List ℝ) (hb : 0 < beta) (hpf : 0 ≤ formPf)
    (hk : ∀ k ∈ ks, -1 / beta < k ∧ k ≤ 0) : formPf ≤ breitung beta formPf ks :=
  C12_sign_towards beta formPf ks hb hpf hk

theorem C12_sign_away_hrack (formPf pdfB cdfB : ℝ) (ks : List ℝ) (hp : 0 < pdfB) (hcdf : 0 < cdfB)
    (hpf : 0 ≤ formPf) (hk : ∀ k ∈ ks, 0 ≤ k) : hrack formPf pdfB cdfB ks ≤ formPf :=
  C12_sign_away (pdfB / cdfB) formPf ks (div_pos hp hcdf) hpf hk

theorem C12_sign_towards_hrack (formPf pdfB cdfB : ℝ) (ks : List ℝ) (hp : 0 < pdfB) (hcdf : 0 < cdfB)
    (hpf : 0 ≤ formPf) (hk : ∀ k ∈ ks, -1 / (pdfB / cdfB) < k ∧ k ≤ 0) :
    formPf ≤ hrack formPf pdfB cdfB ks :=
  C12_sign_towards (pdfB / cdfB) formPf ks (div_pos hp hcdf) hpf hk

section rotation
open Matrix Polynomial
variable {m : ℕ}

theorem C12_similar_charpoly (R : Matrix (Fin m) (Fin m) ℝ) (h : R * Rᵀ = 1) (k : Fin m → ℝ) :
    (R * Matrix.diagonal k * Rᵀ).charpoly = (Matrix.diagonal k).charpoly := by
  rw [Matrix.charpoly_mul_comm, ← Matrix.mul_assoc, mul_eq_one_comm.1 h, Matrix.one_mul]

/-- the whole conjugated Hessian `H (Q diag(k,0) Qᵀ) Hᵀ`, `H` the orthonormal frame whose last row is the design direction,
`H Q = fromBlocks R 0 0 1`, is block diagonal: the design direction decouples with a zero
eigenvalue, so nothing leaks into or out of the leading block -/
theorem C12_conjugated_hessian (R : Matrix (Fin m) (Fin m) ℝ) (k : Fin m → ℝ) :
    Matrix.fromBlocks R 0 0 (1 : Matrix Unit Unit ℝ) *
        Matrix.fromBlocks (Matrix.diagonal k) 0 0 0 *
        (Matrix.fromBlocks R 0 0 (1 : Matrix Unit Unit ℝ))ᵀ =
      Matrix.fromBlocks (R * Matrix.diagonal k * Rᵀ) 0 0 0 := by
  rw [Matrix.fromBlocks_transpose, Matrix.fromBlocks_multiply, Matrix.fromBlocks_multiply]
  simp only [Matrix.mul_zero, Matrix.zero_mul, add_zero, Matrix.transpose_zero]

theorem C12_leading_block (R : Matrix (Fin m) (Fin m) ℝ) (k : Fin m → ℝ) :
    (Matrix.fromBlocks R 0 0 (1 : Matrix Unit Unit ℝ) *
        Matrix.fromBlocks (Matrix.diagonal k) 0 0 0 *
        (Matrix.fromBlocks R 0 0 (1 : Matrix Unit Unit ℝ))ᵀ).toBlocks₁₁ =
      R * Matrix.diagonal k * Rᵀ := by
  rw [C12_conjugated_hessian, Matrix.toBlocks_fromBlocks₁₁]

/-- the eigenvalues of the leading block are exactly the principal curvatures, whatever the
rotation `R` of the tangent frame -/
theorem C12_leading_block_charpoly (R : Matrix (Fin m) (Fin m) ℝ) (h : R * Rᵀ = 1) (k : Fin m → ℝ) :
    ((Matrix.fromBlocks R 0 0 (1 : Matrix Unit Unit ℝ) *
        Matrix.fromBlocks (Matrix.diagonal k) 0 0 0 *
        (Matrix.fromBlocks R 0 0 (1 : Matrix Unit Unit ℝ))ᵀ).toBlocks₁₁).charpoly =
      ∏ i, (X - C (k i)) := by
  rw [C12_leading_block, C12_similar_charpoly R h, Matrix.charpoly_diagonal]

end rotation

example : breitung (2 : ℝ) (1 / 10) [0, 0] = 1 / 10 :=
  (C12_zero_curvature 2 (1 / 10) 0 1 [0, 0] (by simp)).1

example : breitung (2 : ℝ) (1 / 10) [1, 3] = breitung 2 (1 / 10) [3, 1] :=
  (C12_permutation 2 (1 / 10) 0 1 (List.Perm.swap 3 1 [])).1

example : breitung (2 : ℝ) (1 / 10) [1, 3] ≤ 1 / 10 :=
  C12_sign_away_breitung 2 (1 / 10) [1, 3] (by norm_num) (by norm_num) (by
    intro k hk; simp only [List.mem_cons, List.not_mem_nil, or_false] at hk
    rcases hk with rfl | rfl <;> norm_num)

example : (1 / 10 : ℝ) ≤ breitung 2 (1 / 10) [-(1 / 4), -(1 / 3)] :=
  C12_sign_towards_breitung 2 (1 / 10) [-(1 / 4), -(1 / 3)] (by norm_num) (by norm_num) (by
    intro k hk; simp only [List.mem_cons, List.not_mem_nil, or_false] at hk
    rcases hk with rfl | rfl <;> norm_num)

open Matrix in
/-- a concrete rotation (the 3-4-5 one) of the tangent plane: the curvatures `2, 7` are recovered -/
example :
    (!![(3 / 5 : ℝ), -(4 / 5); 4 / 5, 3 / 5] * Matrix.diagonal ![2, 7] *
        (!![(3 / 5 : ℝ), -(4 / 5); 4 / 5, 3 / 5])ᵀ).charpoly =
      ∏ i, (Polynomial.X - Polynomial.C ((![2, 7] : Fin 2 → ℝ) i)) := by
  refine (C12_similar_charpoly _ ?_ _).trans (Matrix.charpoly_diagonal _)
  rw [Matrix.eta_fin_two (!![(3 / 5 : ℝ), -(4 / 5); 4 / 5, 3 / 5])ᵀ, Matrix.mul_fin_two, Matrix.one_fin_two]
  simp only [Matrix.transpose_apply, Matrix.of_apply, Matrix.cons_val', Matrix.cons_val_zero, Matrix.cons_val_one,
    Matrix.cons_val_fin_one]
  norm_num

end FF
