/-
C11 — "a standard-normal U is mapped to variables with exactly the given marginals", on the executable model
(`Model/Nataf.lean`): the law of `X = F⁻¹( Φ( Z ) )` for a standard normal `Z` (Mathlib's `gaussianReal 0 1`).
For a strictly increasing `ofZ = F⁻¹ ∘ Φ` and `x` in the support, `P( ofZ( Z ) ≤ x ) = P( Z ≤ toZ( x ) ) = Φ( toZ x )`, and
`toZ = Φ⁻¹ ∘ F`, so the distribution function of the transformed variable is `F`; for a normal marginal the whole law is
identified as `N( μ, σ² )`.  For `Z = L U` with uncorrelated unit-variance `U`, `E[ Z_i Z_j ] = ( L Lᵀ )_ij`, which is `rhoZ`
for the built model (`C11m_build_factor`): the latent variables have the latent correlation matrix.
-/
import Mathlib.Probability.Distributions.Gaussian.Real
import Mathlib.MeasureTheory.Integral.Bochner.Basic
import FFVerif.Proofs.C11Model
namespace FF.Nataf
open MeasureTheory ProbabilityTheory Set FF.Linalg

theorem C11l_marginal_cdf (m : Marg ℝ) (hv : m.Valid) (hmono : StrictMono m.ofZ) (x : ℝ) (hx : m.InSupport x) :
    ((gaussianReal 0 1).map m.ofZ) (Iic x) = (gaussianReal 0 1) (Iic (m.toZ x)) := by
  rw [Measure.map_apply hmono.monotone.measurable measurableSet_Iic]
  congr 1
  ext z
  simp only [mem_preimage, mem_Iic]
  conv_lhs => rw [← ofZ_toZ m hv x hx]
  exact hmono.le_iff_le

theorem normal_strictMono (mu sigma : ℝ) (hs : 0 < sigma) : StrictMono (Marg.normal mu sigma).ofZ :=
  fun _ _ hab => add_lt_add_right (mul_lt_mul_of_pos_left hab hs) mu

theorem C11l_normal_law (mu sigma : ℝ) :
    (gaussianReal 0 1).map (Marg.normal mu sigma).ofZ = gaussianReal mu (.mk (sigma ^ 2) (sq_nonneg _)) := by
  have h : (Marg.normal mu sigma).ofZ = (fun y => y + mu) ∘ (fun z => sigma * z) :=
    funext fun z => add_comm mu (sigma * z)
  have m1 : Measurable (fun y : ℝ => y + mu) := measurable_id.add_const mu
  have m2 : Measurable (fun z : ℝ => sigma * z) := measurable_const.mul measurable_id
  rw [h, ← Measure.map_map m1 m2, gaussianReal_map_const_mul, gaussianReal_map_add_const]
  congr 1
  · ring
  · ext; simp

theorem C11l_lognormal_cdf (m s : ℝ) (hs : 0 < s) (x : ℝ) (hx : 0 < x) :
    ((gaussianReal 0 1).map (Marg.lognormal m s).ofZ) (Iic x) = (gaussianReal 0 1) (Iic ((Real.log x - m) / s)) :=
  C11l_marginal_cdf (Marg.lognormal m s) (show s ≠ 0 from hs.ne') (Real.exp_strictMono.comp (normal_strictMono m s hs)) x hx

theorem C11l_latent_cov {Ω : Type*} [MeasurableSpace Ω] (P : Measure Ω) (n : Nat) (L : Mat ℝ) (U : Nat → Ω → ℝ)
    (hint : ∀ k l, Integrable (fun ω => U k ω * U l ω) P)
    (hcov : ∀ k < n, ∀ l < n, ∫ ω, U k ω * U l ω ∂P = if k = l then 1 else 0) (i j : Nat) :
    ∫ ω, mulVec n L (fun k => U k ω) i * mulVec n L (fun k => U k ω) j ∂P = ∑ k ∈ Finset.range n, L i k * L j k := by
  have hexp : (fun ω => mulVec n L (fun k => U k ω) i * mulVec n L (fun k => U k ω) j) = fun ω =>
      ∑ k ∈ Finset.range n, ∑ l ∈ Finset.range n, (L i k * L j l) * (U k ω * U l ω) := funext fun ω => by
    rw [mulVec_real, mulVec_real, Finset.sum_mul_sum]
    exact Finset.sum_congr rfl fun k _ => Finset.sum_congr rfl fun l _ => mul_mul_mul_comm _ _ _ _
  rw [hexp, integral_finsetSum (f := fun k ω => ∑ l ∈ Finset.range n, L i k * L j l * (U k ω * U l ω)) _
    fun k _ => integrable_finsetSum _ fun l _ => (hint k l).const_mul _]
  refine Finset.sum_congr rfl fun k hk => ?_
  rw [integral_finsetSum (f := fun l ω => L i k * L j l * (U k ω * U l ω)) _ fun l _ => (hint k l).const_mul _,
    Finset.sum_eq_single_of_mem k hk fun l hl hlk => by
      rw [integral_const_mul, hcov k (Finset.mem_range.mp hk) l (Finset.mem_range.mp hl), if_neg (Ne.symm hlk), mul_zero],
    integral_const_mul, hcov k (Finset.mem_range.mp hk) k (Finset.mem_range.mp hk), if_pos rfl, mul_one]

/-- non-vacuity: `X = 1 + 2 Z` has the law `N( 1, 4 )`, and its distribution function at 3 is `P( Z ≤ 1 )` -/
example : (gaussianReal 0 1).map (Marg.normal 1 2).ofZ = gaussianReal 1 (.mk 4 (by norm_num)) := by
  rw [C11l_normal_law]; congr 1; ext; norm_num
example : ((gaussianReal 0 1).map (Marg.normal 1 2).ofZ) (Iic 3) = (gaussianReal 0 1) (Iic 1) := by
  rw [C11l_marginal_cdf (Marg.normal 1 2) (show (2 : ℝ) ≠ 0 from two_ne_zero) (normal_strictMono 1 2 two_pos) 3 trivial]
  exact congrArg (fun t => (gaussianReal 0 1) (Iic t)) (by norm_num : ((3 : ℝ) - 1) / 2 = 1)

end FF.Nataf
