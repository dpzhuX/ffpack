/-
C10 — `mvalFOSM` does not depend on the unit of the limit state: with `g` and its gradient multiplied by `k > 0` the model returns the
same index (companion of `C10m_scale_hlrf` for the mean-value method; a floor on the denominator, e.g. `max( ·, 1e-12 )`, breaks it).
-/
import Mathlib.Tactic.Positivity
import FFVerif.Proofs.C10Loop
namespace FF.Form
open FF.Linalg Finset

theorem C10m_scale_fosm (n : Nat) (g : Vec ℝ → ℝ) (dg : Vec ℝ → Vec ℝ) (mus sigmas : Vec ℝ) (k : ℝ) (hk : 0 < k) :
    fosm n (fun x => k * g x) (fun x i => k * dg x i) mus sigmas = fosm n g dg mus sigmas := by
  rw [fosm_eq, fosm_eq]
  simp only [mul_assoc, Linalg.norm_smul, abs_of_pos hk, mul_div_mul_left _ _ hk.ne']

/-- non-vacuity: `g = 10 + 3 x0 - 2 x1` in units of `2^-50` -/
example : fosm 2 (fun x => (1 / 2 ^ 50 : ℝ) * (10 + 3 * x 0 - 2 * x 1)) (fun _ i => (1 / 2 ^ 50 : ℝ) * (if i = 0 then 3 else -2)) (fun _ => 0) (fun _ => 1)
    = fosm 2 (fun x => 10 + 3 * x 0 - 2 * x 1) (fun _ i => if i = 0 then 3 else -2) (fun _ => 0) (fun _ => 1) :=
  C10m_scale_fosm 2 _ _ _ _ _ (by positivity)

end FF.Form
