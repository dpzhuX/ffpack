/-
The definitions REGENERATED from the numpy vector expressions of the source (`Gen/VecFormulas.lean`, written by
harness/translate_vec.py on every run) are the hand-written models the property theorems are about — for EVERY
scalar instance (the equalities are structural: a product over `List.map` is a fold), so also for the `Float`
instance the driver evaluates against the implementation.  A change of an operand, sign, exponent or argument in
the source changes the generated text and breaks one of these equalities.

* `breitungPf_eq`, `tvedtPf_eq`, `hrackPf_eq`  — rrm/secondOrderReliabilityMethod.py (C12);
* `fosmBeta_eq`                                — rrm/firstOrderSecondMoment.py (C10);
* `naiveDamage_eq`                             — fdm/minerModel.py (C08).
-/
import FFVerif.Gen.VecFormulas
import FFVerif.Model.Sorm
import FFVerif.Model.Miner
import FFVerif.Model.Form
namespace FF.Gen
section
variable {α : Type} [Transc α]

theorem prod_map_eq_curvProd (c : α) (ks : List α) :
    Vecs.prod (ks.map (fun x => Transc.rpow (Transc.lit 1 0 + c * x) (-(Transc.lit 5 1)))) = Sorm.curvProd c ks := by
  unfold Vecs.prod Sorm.curvProd Sorm.one Sorm.negHalf
  rw [List.foldl_map]

theorem breitungPf_eq (cdf pdf : α → α) (beta : α) (ks : List α) :
    breitungPf cdf pdf beta ks = Sorm.breitung beta (cdf (-(Transc.lit 1 0) * beta)) ks := by
  unfold breitungPf Sorm.breitung
  simp only [prod_map_eq_curvProd]

theorem hrackPf_eq (cdf pdf : α → α) (beta : α) (ks : List α) :
    hrackPf cdf pdf beta ks = Sorm.hrack (cdf (-(Transc.lit 1 0) * beta)) (pdf beta) (cdf beta) ks := by
  unfold hrackPf Sorm.hrack
  simp only [prod_map_eq_curvProd]

theorem tvedtPf_eq (cdf pdf : α → α) (beta : α) (ks : List α) :
    tvedtPf cdf pdf beta ks = Sorm.tvedt beta (cdf (-(Transc.lit 1 0) * beta)) (pdf beta) ks := by
  unfold tvedtPf Sorm.tvedt
  simp only [prod_map_eq_curvProd]
  rfl

theorem naiveDamage_eq (rows : List (α × α)) : naiveDamage rows = Miner.naive rows := rfl

/-- the generated `beta` of `mvalFOSM`, on the gradient and the standard deviations listed over `0 .. n-1`, is the
model `Form.fosm` -/
theorem fosmBeta_eq (cdf : α → α) (n : Nat) (g : (Nat → α) → α) (dg : (Nat → α) → Nat → α) (mus sigmas : Nat → α) :
    fosmBeta cdf (g mus) ((List.range n).map (dg mus)) ((List.range n).map sigmas) = Form.fosm n g dg mus sigmas := by
  unfold fosmBeta Form.fosm Vecs.sum Linalg.fsum Linalg.zero
  rw [List.zip_map', List.map_map, List.map_map, List.foldl_map]
  rfl

end
end FF.Gen
