/-
C10 — convergence of the one-variable HL-RF iteration (= Newton's iteration, `C10Newton`) for a convex, increasing
limit state in the standard variable.

If `G` is convex and differentiable with `G' > 0` and `G r = 0`, its graph lies above every tangent, so from ANY start the Newton
iterates are `≥ r` after one step; `G` increases, so they decrease from then on and (for continuous `G'`) converge to a root,
which is `r`.  The `u`-coordinates of the iterates of `Form.step` in one variable are these Newton iterates for `G = g ∘ T` — e.g.
`g = x − c` for a lognormal `x = exp( m + s u )` is convex and increasing in `u`.
-/
import Mathlib.Analysis.Convex.Deriv
import Mathlib.Topology.Order.MonotoneConvergence
import Mathlib.Topology.Algebra.Order.Field
import Mathlib.Dynamics.FixedPoints.Topology
import FFVerif.Proofs.C10Newton
namespace FF.Form
open Set Filter Topology

section Abstract
variable (G G' : ℝ → ℝ)

noncomputable def newton (u : ℝ) : ℝ := u - G u / G' u

variable {G G'}

theorem tangent_le (hc : ConvexOn ℝ univ G) (hd : ∀ u, HasDerivAt G (G' u) u) (u v : ℝ) :
    G u + G' u * (v - u) ≤ G v := by
  -- `G v - G u` is `v - u` times the slope from `u` to `v`, which is beyond `G' u` on the side of `v`
  rw [← le_sub_iff_add_le', ← vsub_eq_sub (G v), ← sub_smul_slope G u v, smul_eq_mul, mul_comm]
  rcases lt_trichotomy u v with h | rfl | h
  · exact mul_le_mul_of_nonneg_left (hc.le_slope_of_hasDerivAt (mem_univ u) (mem_univ v) h (hd u)) (sub_pos.mpr h).le
  · rw [sub_self, zero_mul, zero_mul]
  · rw [slope_comm]
    exact mul_le_mul_of_nonpos_left (hc.slope_le_of_hasDerivAt (mem_univ v) (mem_univ u) h (hd u)) (sub_neg.mpr h).le

theorem newton_ge_root (hc : ConvexOn ℝ univ G) (hd : ∀ u, HasDerivAt G (G' u) u) (hpos : ∀ u, 0 < G' u)
    {r : ℝ} (hr : G r = 0) (u : ℝ) : r ≤ newton G G' u := by
  have := tangent_le hc hd u r
  rw [hr] at this
  rw [newton, le_sub_comm, div_le_iff₀ (hpos u)]
  linarith

theorem newton_le_self (hd : ∀ u, HasDerivAt G (G' u) u) (hpos : ∀ u, 0 < G' u)
    {r : ℝ} (hr : G r = 0) {u : ℝ} (hu : r ≤ u) : newton G G' u ≤ u :=
  -- `G` increases, so right of the root it is non-negative
  sub_le_self u (div_nonneg (hr ▸ (strictMono_of_hasDerivAt_pos hd hpos).monotone hu) (hpos u).le)

theorem newton_antitone (hc : ConvexOn ℝ univ G) (hd : ∀ u, HasDerivAt G (G' u) u) (hpos : ∀ u, 0 < G' u)
    {r : ℝ} (hr : G r = 0) (u0 : ℝ) : Antitone (fun k => (newton G G')^[k + 1] u0) :=
  antitone_nat_of_succ_le fun k => by
    rw [Function.iterate_succ_apply' _ (k + 1)]
    refine newton_le_self hd hpos hr ?_
    rw [Function.iterate_succ_apply']
    exact newton_ge_root hc hd hpos hr _

theorem newton_tendsto_root (hc : ConvexOn ℝ univ G) (hd : ∀ u, HasDerivAt G (G' u) u) (hpos : ∀ u, 0 < G' u)
    (hcont : Continuous G') {r : ℝ} (hr : G r = 0) (u0 : ℝ) :
    Tendsto (fun k => (newton G G')^[k] u0) atTop (𝓝 r) := by
  -- a decreasing sequence bounded below by the root converges to its infimum `l`
  have hge : ∀ k, r ≤ (newton G G')^[k + 1] u0 := fun k => by
    rw [Function.iterate_succ_apply']; exact newton_ge_root hc hd hpos hr _
  have hlim : Tendsto (fun k => (newton G G')^[k] u0) atTop (𝓝 _) := (tendsto_add_atTop_iff_nat 1).mp
    (tendsto_atTop_ciInf (newton_antitone hc hd hpos hr u0) ⟨r, by rintro _ ⟨k, rfl⟩; exact hge k⟩)
  -- the Newton map is continuous, so `l` is a fixed point, i.e. a root; and the increasing `G` has one root only
  have hN : Continuous (newton G G') :=
    continuous_id.sub ((continuous_iff_continuousAt.mpr fun u => (hd u).continuousAt).div hcont fun u => (hpos u).ne')
  have hfix : newton G G' _ = _ := isFixedPt_of_tendsto_iterate hlim hN.continuousAt
  have hroot := (div_eq_zero_iff.mp (sub_eq_self.mp hfix)).resolve_right (hpos _).ne'
  rwa [(strictMono_of_hasDerivAt_pos hd hpos).injective (hroot.trans hr.symm)] at hlim

end Abstract

open FF.Linalg FF.Nataf Finset

theorem getX_1d (T : Model ℝ) (h1 : T.dim = 1) (u : Vec ℝ) : getX T u = getX T (fun _ => u 0) := by
  funext d
  unfold getX
  rw [mulVec_real, mulVec_real, h1, Finset.sum_range_one, Finset.sum_range_one]

/-- the limit state and its pulled-back derivative as functions of the one standard variable -/
noncomputable def G1 (T : Model ℝ) (g : Vec ℝ → ℝ) (a : ℝ) : ℝ := g (getX T (fun _ => a))
noncomputable def G1' (T : Model ℝ) (dg : Vec ℝ → Vec ℝ) (a : ℝ) : ℝ := G' T dg (fun _ => a)

theorem G'_1d (T : Model ℝ) (h1 : T.dim = 1) (dg : Vec ℝ → Vec ℝ) (u : Vec ℝ) : G' T dg u = G1' T dg (u 0) := by
  unfold G1' G'
  rw [getX_1d T h1 u]

theorem step_1d_newton (T : Model ℝ) (h1 : T.dim = 1) (hL : T.L 0 0 = 1) (g : Vec ℝ → ℝ) (dg : Vec ℝ → Vec ℝ)
    (hne : ∀ a, G1' T dg a ≠ 0) (u : Vec ℝ) :
    (step T g dg u).u 0 = newton (G1 T g) (G1' T dg) (u 0) := by
  rw [C10m_newton_1d T h1 hL g dg u (by rw [G'_1d T h1]; exact hne _), G'_1d T h1]
  unfold newton G1
  rw [getX_1d T h1 u]

theorem C10c_model_iterates (T : Model ℝ) (h1 : T.dim = 1) (hL : T.L 0 0 = 1) (g : Vec ℝ → ℝ) (dg : Vec ℝ → Vec ℝ)
    (hne : ∀ a, G1' T dg a ≠ 0) (u0 : Vec ℝ) (k : ℕ) :
    ((fun u => (step T g dg u).u)^[k] u0) 0 = (newton (G1 T g) (G1' T dg))^[k] (u0 0) :=
  -- reading off coordinate 0 semiconjugates the loop body to the Newton map
  (Function.Semiconj.iterate_right (f := fun u : Vec ℝ => u 0) (step_1d_newton T h1 hL g dg hne) k).eq u0

theorem C10c_hlrf_1d_converges (T : Model ℝ) (h1 : T.dim = 1) (hL : T.L 0 0 = 1) (g : Vec ℝ → ℝ) (dg : Vec ℝ → Vec ℝ)
    (hc : ConvexOn ℝ univ (G1 T g)) (hd : ∀ a, HasDerivAt (G1 T g) (G1' T dg a) a) (hpos : ∀ a, 0 < G1' T dg a)
    (hcont : Continuous (G1' T dg)) {r : ℝ} (hr : G1 T g r = 0) (u0 : Vec ℝ) :
    Tendsto (fun k => ((fun u => (step T g dg u).u)^[k] u0) 0) atTop (𝓝 r) := by
  have := newton_tendsto_root hc hd hpos hcont hr (u0 0)
  refine this.congr (fun k => ?_)
  rw [C10c_model_iterates T h1 hL g dg (fun a => (hpos a).ne') u0 k]

noncomputable def lognormal1 (m s : ℝ) : Model ℝ :=
  { dim := 1, marg := fun _ => .lognormal m s, L := fun _ _ => 1, Linv := fun _ _ => 1 }

theorem G1_lognormal (m s c : ℝ) :
    G1 (lognormal1 m s) (fun x => x 0 - c) = fun a => Real.exp (m + s * a) - c := by
  funext a
  unfold G1 getX lognormal1
  simp only [Marg.ofZ, exp_real]
  rw [mulVec_real, Finset.sum_range_one, one_mul]

theorem G1'_lognormal (m s : ℝ) :
    G1' (lognormal1 m s) (fun _ _ => 1) = fun a => s * Real.exp (m + s * a) := by
  funext a
  unfold G1' G' getX lognormal1
  simp only [Marg.dxdz, Marg.ofZ, exp_real, mul_one]
  rw [mulVec_real, Finset.sum_range_one, one_mul]

/-- the clause `pf = F( c )` of C10 for a lognormal `x`, `g = x − c`: from any start the iterates of the model converge to
`u* = ( ln c − m ) / s = Φ⁻¹( F( c ) )`, so `β → −u*` and `pf = Φ( u* ) = F( c )` -/
theorem C10c_lognormal_threshold (m s c : ℝ) (hs : 0 < s) (hc : 0 < c) (u0 : Vec ℝ) :
    Tendsto (fun k => ((fun u => (step (lognormal1 m s) (fun x => x 0 - c) (fun _ _ => 1) u).u)^[k] u0) 0) atTop
      (𝓝 ((Real.log c - m) / s)) := by
  apply C10c_hlrf_1d_converges (lognormal1 m s) rfl rfl
  · rw [G1_lognormal]
    exact ((convexOn_exp.translate_right m).comp_linearMap (LinearMap.mul ℝ ℝ s)).add_const (-c)
  · intro a
    rw [G1_lognormal, G1'_lognormal]
    have := ((((hasDerivAt_id a).const_mul s).const_add m).exp).sub_const c
    rwa [mul_one, mul_comm] at this
  · intro a; rw [G1'_lognormal]; exact mul_pos hs (Real.exp_pos _)
  · rw [G1'_lognormal]; fun_prop
  · rw [G1_lognormal]
    show Real.exp (m + s * ((Real.log c - m) / s)) - c = 0
    rw [mul_div_cancel₀ _ hs.ne', add_sub_cancel, Real.exp_log hc, sub_self]

end FF.Form
