/-
C08 — property theorems: Miner damage is the linear sum of count/life over the fitted S-N curve.
`Miner.classic`, `Miner.naive`, `Miner.getN`, `Miner.lsq` are the code-shaped generic-scalar models
(accumulation loop with the -1 sentinel, closed-form least squares); here at the reals.
-/
import Mathlib.Tactic.Ring
import Mathlib.Tactic.Positivity
import Mathlib.Tactic.LinearCombination
import Mathlib.Algebra.BigOperators.Group.List.Basic
import Mathlib.Algebra.Order.BigOperators.Group.List
import FFVerif.Lemmas.RealScalar
import FFVerif.Model.Miner
namespace FF
open Miner

theorem miner_zero : (Miner.zero : ℝ) = 0 := by rw [Miner.zero, lit_exp_zero, Nat.cast_zero]

theorem miner_sum (l : List ℝ) : Miner.sum l = l.sum := by
  rw [List.sum_eq_foldl, Miner.sum, miner_zero]

theorem miner_count (l : List ℝ) : Miner.count l = l.length := by
  have h : (l.map fun _ => (1 : ℝ)).sum = l.length := by
    rw [List.map_const', List.sum_replicate, nsmul_eq_mul, mul_one]
  rw [← h, List.sum_eq_foldl, List.foldl_map]
  simp only [Miner.count, miner_zero, real_scalar]

/-- one row's contribution -/
noncomputable def term (sn : List (ℝ × ℝ)) (limit : ℝ) (p : ℝ × ℝ) : ℝ :=
  match getN sn limit p.1 with
  | some nf => p.2 / nf
  | none => 0

theorem classicStep_eq (sn : List (ℝ × ℝ)) (limit acc : ℝ) (p : ℝ × ℝ) :
    classicStep sn limit acc p = acc + term sn limit p := by
  unfold classicStep term
  cases getN sn limit p.1
  exacts [(add_zero acc).symm, rfl]

theorem C08_classic_eq_sum (rows sn : List (ℝ × ℝ)) (limit : ℝ) :
    classic rows sn limit = (rows.map (term sn limit)).sum := by
  rw [List.sum_eq_foldl, List.foldl_map, classic, miner_zero, funext₂ (classicStep_eq sn limit)]

/-- the fitted life: 10^(a*S + b) with (a, b) the least-squares line of log10 N on S -/
noncomputable def lifeN (sn : List (ℝ × ℝ)) (S : ℝ) : ℝ :=
  (10 : ℝ) ^ ((lsq (sn.map (·.2)) (sn.map (fun p => Real.log p.1 / Real.log 10))).1 * S +
    (lsq (sn.map (·.2)) (sn.map (fun p => Real.log p.1 / Real.log 10))).2)

/-- each row contributes count / N(S), and nothing at or below the fatigue limit (boundary included) -/
theorem C08_term (sn : List (ℝ × ℝ)) (limit : ℝ) (p : ℝ × ℝ) :
    term sn limit p = if p.1 ≤ limit then 0 else p.2 / lifeN sn p.1 := by
  unfold term getN lifeN
  simp only [leb_real, real_scalar]
  by_cases h : p.1 ≤ limit
  · rw [if_pos h, if_pos h]
  · rw [if_neg h, if_neg h]

theorem lifeN_pos (sn : List (ℝ × ℝ)) (S : ℝ) : 0 < lifeN sn S := by
  unfold lifeN; positivity

theorem C08_additive (r1 r2 sn : List (ℝ × ℝ)) (limit : ℝ) :
    classic (r1 ++ r2) sn limit = classic r1 sn limit + classic r2 sn limit := by
  simp only [C08_classic_eq_sum, List.map_append, List.sum_append]

theorem C08_homogeneous (rows sn : List (ℝ × ℝ)) (limit k : ℝ) :
    classic (rows.map (fun p => (p.1, k * p.2))) sn limit = k * classic rows sn limit := by
  have h : ∀ p : ℝ × ℝ, term sn limit (p.1, k * p.2) = k * term sn limit p := fun p => by
    simp only [C08_term]; split
    · exact (mul_zero k).symm
    · exact mul_div_assoc k _ _
  simp only [C08_classic_eq_sum, List.map_map, Function.comp_def, h, List.sum_map_mul_left]

theorem C08_perm (r1 r2 sn : List (ℝ × ℝ)) (limit : ℝ) (h : r1.Perm r2) :
    classic r1 sn limit = classic r2 sn limit := by
  simp only [C08_classic_eq_sum]
  exact (h.map _).sum_eq

theorem term_nonneg (sn : List (ℝ × ℝ)) (limit : ℝ) {p : ℝ × ℝ} (hc : 0 ≤ p.2) : 0 ≤ term sn limit p := by
  rw [C08_term]
  split
  · exact le_rfl
  · exact div_nonneg hc (lifeN_pos sn p.1).le

theorem C08_nonneg (rows sn : List (ℝ × ℝ)) (limit : ℝ) (hc : ∀ p ∈ rows, 0 ≤ p.2) :
    0 ≤ classic rows sn limit := by
  rw [C08_classic_eq_sum]
  exact List.sum_nonneg (List.forall_mem_map.mpr fun p hp => term_nonneg sn limit (hc p hp))

theorem C08_below_limit (rows sn : List (ℝ × ℝ)) (limit : ℝ) (h : ∀ p ∈ rows, p.1 ≤ limit) :
    classic rows sn limit = 0 := by
  rw [C08_classic_eq_sum]
  exact List.sum_eq_zero (List.forall_mem_map.mpr fun p hp => by rw [C08_term, if_pos (h p hp)])

/-- on a falling S-N curve (slope a ≤ 0) raising a stress level never lowers the row's damage -/
theorem C08_monotone_row (sn : List (ℝ × ℝ)) (limit S S' c : ℝ) (hc : 0 ≤ c) (hS : S ≤ S')
    (ha : (lsq (sn.map (·.2)) (sn.map (fun p => Real.log p.1 / Real.log 10))).1 ≤ 0) :
    term sn limit (S, c) ≤ term sn limit (S', c) := by
  by_cases h1 : S ≤ limit
  · rw [C08_term sn limit (S, c), if_pos h1]
    exact term_nonneg sn limit hc
  · rw [C08_term, C08_term, if_neg h1, if_neg fun h => h1 (hS.trans h)]
    exact div_le_div_of_nonneg_left hc (lifeN_pos sn S')
      (Real.rpow_le_rpow_of_exponent_le (by norm_num) (add_le_add (mul_le_mul_of_nonpos_left hS ha) le_rfl))

theorem C08_naive (rows : List (ℝ × ℝ)) : naive rows = (rows.map (fun p => p.1 / p.2)).sum :=
  miner_sum _

theorem lsq_fst (xs ys : List ℝ) : (lsq xs ys).1 =
    ((xs.length : ℝ) * ((xs.zip ys).map (fun p => p.1 * p.2)).sum - xs.sum * ys.sum) /
      ((xs.length : ℝ) * (xs.map (fun x => x * x)).sum - xs.sum * xs.sum) := by
  simp only [lsq, miner_sum, miner_count]

theorem lsq_snd (xs ys : List ℝ) : (lsq xs ys).2 = (ys.sum - (lsq xs ys).1 * xs.sum) / (xs.length : ℝ) := by
  simp only [lsq, miner_sum, miner_count]

/-- the residual sums of any line `a x + b` in terms of the five moments -/
theorem resid_sums (a b : ℝ) : ∀ xs ys : List ℝ, xs.length = ys.length →
    ((xs.zip ys).map (fun p => p.2 - (a * p.1 + b))).sum = ys.sum - a * xs.sum - b * xs.length ∧
    ((xs.zip ys).map (fun p => p.1 * (p.2 - (a * p.1 + b)))).sum =
      ((xs.zip ys).map (fun p => p.1 * p.2)).sum - a * (xs.map (fun x => x * x)).sum - b * xs.sum
  | [], [], _ => by simp
  | x :: xs, y :: ys, h => by
    obtain ⟨i1, i2⟩ := resid_sums a b xs ys (Nat.succ.inj h)
    simp only [List.zip_cons_cons, List.map_cons, List.sum_cons, List.length_cons, i1, i2, Nat.cast_succ]
    constructor <;> ring

/-- normal equations: the residuals sum to zero and are orthogonal to x -/
theorem lsq_normal (xs ys : List ℝ) (hl : xs.length = ys.length)
    (hdet : (xs.length : ℝ) * (xs.map (fun x => x * x)).sum - xs.sum * xs.sum ≠ 0) (hn : xs ≠ []) :
    ((xs.zip ys).map (fun p => p.2 - ((lsq xs ys).1 * p.1 + (lsq xs ys).2))).sum = 0 ∧
    ((xs.zip ys).map (fun p => p.1 * (p.2 - ((lsq xs ys).1 * p.1 + (lsq xs ys).2)))).sum = 0 := by
  have hn0 : (xs.length : ℝ) ≠ 0 := Nat.cast_ne_zero.mpr (mt List.length_eq_zero_iff.mp hn)
  -- slope and intercept cleared of their denominators
  have ha := (eq_div_iff hdet).mp (lsq_fst xs ys)
  have hb := (eq_div_iff hn0).mp (lsq_snd xs ys)
  obtain ⟨k1, k2⟩ := resid_sums (lsq xs ys).1 (lsq xs ys).2 xs ys hl
  rw [k1, k2]
  exact ⟨by linear_combination -hb, mul_left_cancel₀ hn0 (by linear_combination -ha - xs.sum * hb)⟩

theorem lsq_two_points (x1 x2 y1 y2 : ℝ) (hx : x1 ≠ x2) :
    (lsq [x1, x2] [y1, y2]).1 * x1 + (lsq [x1, x2] [y1, y2]).2 = y1 ∧
    (lsq [x1, x2] [y1, y2]).1 * x2 + (lsq [x1, x2] [y1, y2]).2 = y2 := by
  have hne : x1 - x2 ≠ 0 := sub_ne_zero.mpr hx
  obtain ⟨n1, n2⟩ := lsq_normal [x1, x2] [y1, y2] rfl (by
    simp only [List.length_cons, List.length_nil, List.map_cons, List.map_nil, List.sum_cons, List.sum_nil]
    intro h; exact pow_ne_zero 2 hne (by push_cast at h; linear_combination h)) (List.cons_ne_nil _ _)
  simp only [List.zip_cons_cons, List.zip_nil_right, List.map_cons, List.map_nil, List.sum_cons, List.sum_nil,
    add_zero] at n1 n2
  -- r1 + r2 = 0 and x1 r1 + x2 r2 = 0 with x1 ≠ x2 force r1 = r2 = 0
  exact ⟨mul_left_cancel₀ hne (by linear_combination x2 * n1 - n2),
    mul_left_cancel₀ hne (by linear_combination n2 - x1 * n1)⟩

/-- **the fitted line is the least-squares line**: no other line has a smaller sum of squared residuals
(this is what `np.polyfit( S, log10( N ), 1 )` is documented to return; the closed form of the model is
compared with it numerically, and is the minimiser by this theorem) -/
theorem lsq_minimises (xs ys : List ℝ) (hl : xs.length = ys.length)
    (hdet : (xs.length : ℝ) * (xs.map (fun x => x * x)).sum - xs.sum * xs.sum ≠ 0) (hn : xs ≠ []) (a' b' : ℝ) :
    ((xs.zip ys).map (fun p => (p.2 - ((lsq xs ys).1 * p.1 + (lsq xs ys).2)) ^ 2)).sum ≤
    ((xs.zip ys).map (fun p => (p.2 - (a' * p.1 + b')) ^ 2)).sum := by
  obtain ⟨n1, n2⟩ := lsq_normal xs ys hl hdet hn
  generalize (lsq xs ys).1 = a at n1 n2 ⊢
  generalize (lsq xs ys).2 = b at n1 n2 ⊢
  -- S(a', b') = S(a, b) + 2 (a - a') Σ x r + 2 (b - b') Σ r + Σ ((a - a') x + (b - b'))², term by term
  have e : ∀ p : ℝ × ℝ, (p.2 - (a' * p.1 + b')) ^ 2 = (p.2 - (a * p.1 + b)) ^ 2
      + 2 * (a - a') * (p.1 * (p.2 - (a * p.1 + b))) + 2 * (b - b') * (p.2 - (a * p.1 + b))
      + ((a - a') * p.1 + (b - b')) ^ 2 := fun p => by ring
  simp only [e]
  rw [List.sum_map_add, List.sum_map_add, List.sum_map_add, List.sum_map_mul_left, List.sum_map_mul_left, n1, n2,
    mul_zero, add_zero, mul_zero, add_zero]
  exact le_add_of_nonneg_right (List.sum_nonneg (List.forall_mem_map.mpr fun _ _ => sq_nonneg _))

end FF
