/-
C06 — property theorems: Rychlik and Johannesson cycles follow their per-peak definition.
`rychlik`, `johannesson` are the code-shaped models (tied to the Python by exact correspondence).
Proved here: one whole cycle per interior local maximum of the history with that maximum as top.
The bottoms in raw-history form (lowest value since the history was last at or above M, on the
de-plateaued samples; for Rychlik the higher of the two sides when the top is unique) are
`C06_johannesson_bottoms` in Lemmas/JoBottom.lean and `C06_rychlik_bottoms` in Lemmas/RyBottom.lean;
Rychlik's theorem with ties is `C06_rainflow_eq` in Proofs/C06Rainflow.lean.
-/
import FFVerif.Lemmas.JoBottom
namespace FF
open C06

/-- each interior local maximum yields exactly one (whole) Rychlik cycle whose top is that maximum -/
theorem C06_rychlik_tops (h : List Int) : topsOK h (rychlik h) = true := by
  rw [rychlik_eq_map]; exact tops_of_map _ (fun _ => rfl) (fun _ => rfl) h

theorem C06_johannesson_tops (h : List Int) : topsOK h (johannesson h) = true := by
  rw [johannesson_eq_map]; exact tops_of_map _ (fun _ => rfl) (fun _ => rfl) h

/-- interior strict local maxima of a list, in order -/
def maximaOf : List Int → List Int
  | a :: b :: c :: rest => (if a < b ∧ b > c then [b] else []) ++ maximaOf (b :: c :: rest)
  | _ => []

theorem peaksCtx_tops (right : List Int) (p : Int) (l : List Int) :
    (peaksCtx (p :: l) right).map (·.2.1) = maximaOf (p :: right) := by
  induction right generalizing p l with
  | nil => rfl
  | cons cur right ih =>
    cases right with
    | nil => rfl
    | cons next rest =>
      rw [peaksCtx, maximaOf, List.map_append, ih cur (p :: l)]
      congr 1
      by_cases hk : cur > p ∧ cur > next
      · rw [if_pos hk, if_pos ⟨hk.1, hk.2⟩]; rfl
      · rw [if_neg hk, if_neg (fun h => hk ⟨h.1, h.2⟩)]; rfl

theorem peaksCtx_nil_tops : ∀ l : List Int, (peaksCtx [] l).map (·.2.1) = maximaOf l
  | [] => rfl
  | [_] => rfl
  | cur :: next :: rest => by rw [peaksCtx]; exact peaksCtx_tops (next :: rest) cur []

theorem maxima_pv_eq_maxima_dedup (h : List Int) : maximaOf (pv true h) = maximaOf (dedup h) := by
  have := congrArg (List.map (·.2.1)) (peaksCtx_pv h)
  simpa only [List.map_map, Function.comp_def, ctxKey, peaksOf, peaksCtx_nil_tops] using this

/-- the cycle the Rychlik walk closes at a top `M` that no later reversal equals: its right-hand scan
`scanMinLe` is then the mirror image `scanMin` of the Johannesson scan -/
theorem C06_rychlik_bottom_partial (l : List Int) (M : Int) (r : List Int) (hu : M ∉ r) :
    (⟨max (scanMin M l) (scanMinLe M r), M, false⟩ : Cyc) = ⟨max (scanMin M l) (scanMin M r), M, false⟩ := by
  rw [scanMinLe_eq_scanMin M r hu]

-- witnesses: equal-height peaks (the case of the defect recorded in DESIGN.md §6)
example : rychlik [0, 2, 1, 2, 0] = [⟨0, 2, false⟩, ⟨1, 2, false⟩] := by decide
example : table (rychlik [0, 2, 1, 2, 0]) = table (rainflow [0, 2, 1, 2, 0]) := by
  simp [rychlik, rainflow, pv, pvGo, peaksGo, scanMin, scanMinLe, implGo, rng, halves, table, tblAdd, Cyc.range, Cyc.units]; decide

end FF
