/-
C12 (SORM curvature basis) — the list that `mgs` (FFVerif/Proofs/C20Gram.lean) runs on in the
curvature extraction.  The Python code takes the (non-zero) alignment vector `v` of ℝⁿ, picks
`k = argmax_j |v_j|` and hands Gram–Schmidt the list `v :: (e_j for j ≠ k, in increasing j)`,
`e_j` the standard basis of ℝⁿ: the standard basis with `e_k` replaced by `v`, new member first, so `C20Align` applies once
that family is known to be independent (`v k ≠ 0`, which the argmax choice guarantees).
-/
import Mathlib.Analysis.InnerProductSpace.PiL2
import FFVerif.Proofs.C20Align
namespace FF

section Basis
variable {n : ℕ}

/-- the standard basis of ℝⁿ with `e_k` replaced by `v`: since `v = Σ v_j e_j` with `v_k ≠ 0`, Mathlib's exchange lemma applies -/
theorem linearIndependent_update_single (v : EuclideanSpace ℝ (Fin n)) (k : Fin n) (hv : v k ≠ 0) :
    LinearIndependent ℝ (Function.update (fun j => EuclideanSpace.single j (1 : ℝ)) k v) := by
  have hcoe : ⇑(PiLp.basisFun 2 ℝ (Fin n)) = fun j => EuclideanSpace.single j (1 : ℝ) :=
    funext (PiLp.basisFun_apply 2 ℝ (Fin n))
  rw [← hcoe]
  exact (Module.Basis.linearIndependent _).update k v ⟨1, one_mem _, (PiLp.basisFun 2 ℝ (Fin n)).repr v,
    mem_nonZeroDivisors_of_ne_zero (by rwa [PiLp.basisFun_repr]), by rw [one_smul, Module.Basis.linearCombination_repr]⟩

/-- **C12, curvature basis list is independent.** With `v k ≠ 0`, the list
`v :: (e_j, j ≠ k, in increasing j)` is linearly independent and has `n` members. -/
theorem C12_basis_replace_independent (v : EuclideanSpace ℝ (Fin n)) (k : Fin n)
    (hv : v k ≠ 0) :
    let l : List (EuclideanSpace ℝ (Fin n)) :=
      v :: ((List.finRange n).filter (· ≠ k)).map (fun j => EuclideanSpace.single j (1 : ℝ))
    LinearIndependent ℝ (fun i : Fin l.length => l.get i) ∧ l.length = n :=
  linearIndependent_update_list _ k v (linearIndependent_update_single v k hv)

/-- **C12, curvature basis.** Gram–Schmidt on `v :: (e_j, j ≠ k, in increasing j)` with `v k ≠ 0`
returns `n` orthonormal vectors, the first of which is the normalised `v`. -/
theorem C12_basis_replace_orthonormal (v : EuclideanSpace ℝ (Fin n)) (k : Fin n)
    (hv : v k ≠ 0) :
    let l : List (EuclideanSpace ℝ (Fin n)) :=
      v :: ((List.finRange n).filter (· ≠ k)).map (fun j => EuclideanSpace.single j (1 : ℝ))
    (mgs l).length = n ∧
      Orthonormal ℝ (fun i : Fin (mgs l).length => (mgs l).get i) ∧
      (mgs l).head? = some ((‖v‖)⁻¹ • v) :=
  have h := mgs_update_spec _ k v (linearIndependent_update_single v k hv)
  ⟨h.1, h.2, C20_gramSchmidt_first v _⟩

/-- **C12, argmax choice.** A coordinate of largest absolute value of a non-zero vector is
non-zero. -/
theorem C12_argmax_component_ne_zero (v : EuclideanSpace ℝ (Fin n)) (hv : v ≠ 0) (k : Fin n)
    (hk : ∀ j, |v j| ≤ |v k|) : v k ≠ 0 := by
  intro h0
  apply hv
  ext j
  have := hk j
  rw [h0, abs_zero] at this
  exact abs_nonpos_iff.mp this

end Basis

end FF
