/- The repeating-history count: rotation to the maximum (`argmax` is the index of the first maximum; where it
falls in a sequence), second filtering, forward pass.  Core Lean only. -/
import FFVerif.Lemmas.Census
import FFVerif.Lemmas.Filter
namespace FF

theorem lt_of_le_of_not_mem {l : List Int} {M : Int} (hb : ∀ v ∈ l, v ≤ M) (hn : M ∉ l) : ∀ v ∈ l, v < M :=
  fun v hv => Int.lt_iff_le_and_ne.mpr ⟨hb v hv, fun e => hn (e ▸ hv)⟩

theorem listMax_eq_of {l : List Int} {m : Int} (hm : m ∈ l) (hb : ∀ y ∈ l, y ≤ m) : listMax l = m :=
  Int.le_antisymm (hb _ (listMax_mem l (List.ne_nil_of_mem hm))) (le_listMax hm)

/-- `argmaxGo` after the prefix `pre`, whose first maximum `m` sits at `best` -/
theorem argmaxGo_eq (xs : List Int) : ∀ (pre : List Int) (m : Int), m ∈ pre → (∀ y ∈ pre, y ≤ m) →
    argmaxGo xs pre.length m (pre.idxOf m) = (pre ++ xs).idxOf (listMax (pre ++ xs)) := by
  induction xs with
  | nil => intro pre m hm hb; rw [argmaxGo, List.append_nil, listMax_eq_of hm hb]
  | cons x xs ih =>
    intro pre m hm hb
    have e : pre ++ x :: xs = (pre ++ [x]) ++ xs := by simp
    rw [argmaxGo, e]
    split
    · next hx =>
      -- a new strict maximum: it does not occur in `pre`
      have hn : x ∉ pre := fun h => by have := hb x h; omega
      have := ih (pre ++ [x]) x (by simp) (List.forall_mem_append.mpr
        ⟨fun y h => by have := hb y h; omega, List.forall_mem_singleton.mpr (Int.le_refl x)⟩)
      rwa [List.length_append, List.idxOf_append, if_neg hn, List.length_singleton,
        List.idxOf_cons_self, Nat.zero_add] at this
    · next hx =>
      have := ih (pre ++ [x]) m (List.mem_append_left _ hm) (List.forall_mem_append.mpr
        ⟨hb, List.forall_mem_singleton.mpr (by omega)⟩)
      rwa [List.length_append, List.idxOf_append, if_pos hm, List.length_singleton] at this

/-- `ndarray.argmax`: the index of the first occurrence of the maximum -/
theorem argmax_eq (R : List Int) : argmax R = R.idxOf (listMax R) := by
  cases R with
  | nil => rfl
  | cons x xs => simpa [argmax] using argmaxGo_eq xs [x] x (by simp) (by simp)

theorem argmax_first (A Q : List Int) (M : Int) (hA : ∀ a ∈ A, a < M) (hQ : ∀ q ∈ Q, q ≤ M) :
    argmax (A ++ M :: Q) = A.length := by
  have hb : ∀ y ∈ A ++ M :: Q, y ≤ M := List.forall_mem_append.mpr
    ⟨fun y h => Int.le_of_lt (hA y h), List.forall_mem_cons.mpr ⟨Int.le_refl M, hQ⟩⟩
  rw [argmax_eq, listMax_eq_of (by simp) hb, List.idxOf_append,
    if_neg (fun h => by have := hA M h; omega), List.idxOf_cons_self, Nat.zero_add]

theorem argmax_pv_zero (x : Int) (l : List Int) (hub : ∀ v ∈ l, v ≤ x) : argmax (pv true (x :: l)) = 0 :=
  argmax_first [] (pvGo true x l) x (fun _ h => nomatch h) fun v hv => hub v ((pvGo_sublist true l x).subset hv)

/-- the rotated record before the second filtering -/
def rotated (R : List Int) : List Int := R.drop (argmax R) ++ (R.take (argmax R + 1)).drop 1

theorem argmax_zero_rotated (R : List Int) (h0 : argmax R = 0) : rotated R = R := by
  cases R with
  | nil => rfl
  | cons x xs => simp [rotated, h0]

/-- rotation to the first maximum `M`: what stood before it moves behind the end, without its first point,
and is closed by `M` -/
theorem rotated_first (P Q : List Int) (M : Int) (hP : ∀ a ∈ P, a < M) (hQ : ∀ q ∈ Q, q ≤ M) :
    rotated (P ++ M :: Q) = M :: (Q ++ (P ++ [M]).tail) := by
  rw [rotated, argmax_first P Q M hP hQ, List.drop_left, List.take_length_add_append]
  simp

theorem argmax_split (R : List Int) (hne : R ≠ []) :
    ∃ A M Q, R = A ++ M :: Q ∧ rotated R = M :: (Q ++ (A ++ [M]).tail) ∧ ∀ y ∈ R, y ≤ M := by
  obtain ⟨A, Q, e, hn⟩ := List.eq_append_cons_of_mem (listMax_mem R hne)
  have hub : ∀ y ∈ R, y ≤ listMax R := fun y => le_listMax
  generalize listMax R = M at e hn hub
  subst e
  exact ⟨A, M, Q, rfl, rotated_first A Q M (lt_of_le_of_not_mem (fun a ha => hub a (by simp [ha])) hn)
    fun q hq => hub q (by simp [hq]), hub⟩

theorem rotated_length (R : List Int) (h : R ≠ []) : (rotated R).length = R.length := by
  obtain ⟨A, M, Q, rfl, e, -⟩ := argmax_split R h
  rw [e]
  simp
  omega

theorem rotated_mem (R : List Int) : ∀ x ∈ rotated R, x ∈ R := by
  intro x hx
  rcases List.mem_append.mp hx with h | h
  · exact List.mem_of_mem_drop h
  · exact List.mem_of_mem_take (List.mem_of_mem_drop h)

theorem rotateToMax_eq (R : List Int) : rotateToMax R = pv true (rotated R) := rfl

/-- a reversal sequence that starts at its maximum is not rotated: the count is the forward pass over it -/
theorem repeat_unrotated (h : List Int) (h0 : argmax (pv true h) = 0) :
    rainflowRepeat h = (rpForward [] (pv true h) []).2 := by
  unfold rainflowRepeat
  rw [rotateToMax_eq, argmax_zero_rotated _ h0, pv_true_idem]

/-- in particular for a history that starts at an upper bound of it -/
theorem repeat_from_max (M : Int) (l : List Int) (hub : ∀ v ∈ l, v ≤ M) :
    rainflowRepeat (M :: l) = (rpForward [] (pv true (M :: l)) []).2 :=
  repeat_unrotated _ (argmax_pv_zero M l hub)

theorem repeat_spec (R : List Int) (hR : R ≠ []) :
    (∀ c ∈ (rpForward [] (rotateToMax R) []).2, GoodW R c) ∧
    totalUnits (rpForward [] (rotateToMax R) []).2 + 1 ≤ R.length := by
  rw [rotateToMax_eq]
  have hlen : (pv true (rotated R)).length ≤ R.length := by
    rw [← rotated_length R hR]; exact (pv_sublist true _).length_le
  have hsub : ∀ x ∈ pv true (rotated R), x ∈ R :=
    fun x hx => rotated_mem R x ((pv_sublist true _).subset hx)
  by_cases hc : isConstant (rotated R) = true
  · rw [rpForward_short _ (pv_const_length _ hc)]
    exact ⟨fun c hc' => (by cases hc'), List.length_pos_iff.mpr hR⟩
  · have hz : Zig (pv true (rotated R)) := pv_zig _ (by simpa using hc)
    have cen := rpForward_census_nil true (pv true (rotated R))
    exact ⟨fun c hc => ⟨(cen.good hz c hc).mono hsub, cen.whole rfl c hc⟩,
      by have := cen.total_le (pv_ne_nil (by simpa using hc)); omega⟩

end FF
