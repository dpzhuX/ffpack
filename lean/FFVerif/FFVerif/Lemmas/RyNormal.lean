/- Rychlik's count on a four-point residue does not depend on the direction of time: at every interior
peak the bottom is the higher of the two neighbouring valleys.  Core Lean only. -/
import FFVerif.Lemmas.RyStep
import FFVerif.Lemmas.ClosedNormal
namespace FF

/-- an interior peak `x` of a residue whose right-hand range is the smaller one: the ranges keep
shrinking to the right (`normal_inside`), so the right-hand scan returns the neighbour `c`, and the
left-hand scan starts at the lower neighbour `a`.  The same holds with the two sides exchanged. -/
theorem emit_inner {a x c : Int} {R : List Int} (P : List Int) (hn : Normal (P ++ a :: x :: c :: R))
    (hz : Zig (P ++ a :: x :: c :: R)) (ha : a < x) (hac : a ≤ c) (hc : c < x) (l : List Int) :
    ryEmit (a :: l) x (c :: R) = [⟨c, x, false⟩] ∧ ryEmit (c :: R) x (a :: l) = [⟨c, x, false⟩] := by
  have hin : ∀ v ∈ R, c ≤ v := fun v hv => by
    have := normal_inside a x c R (fun _ _ s => hn _ _ (s.prepend P)) (Zig_suffix P hz)
      (by unfold rng; omega) v hv
    omega
  exact ⟨ryEmit_right l R hc hac (smLe_eq_head (Int.le_of_lt hc) hin),
    ryEmit_left R l hc hac (sm_eq_head hc hin)⟩

/-- on a residue every point emits the same cycle in both directions of time -/
theorem ryEmit_symm (A B : List Int) (x : Int) (hn : Normal (A.reverse ++ x :: B))
    (hz : Zig (A.reverse ++ x :: B)) : ryEmit A x B = ryEmit B x A := by
  rcases A with _ | ⟨a, l⟩
  · rw [ryEmit_nil_left, ryEmit_nil_right]
  rcases B with _ | ⟨c, R⟩
  · rw [ryEmit_nil_left, ryEmit_nil_right]
  by_cases ha : x > a
  · by_cases hc : x > c
    · have hn' := hn.reverse
      have hz' := hz.reverse
      simp only [List.reverse_append, List.reverse_cons, List.reverse_reverse, List.append_assoc,
        List.cons_append, List.nil_append] at hn hz hn' hz'
      rcases Int.le_total a c with h | h
      · exact (emit_inner _ hn hz ha h hc l).elim fun e1 e2 => e1.trans e2.symm
      · exact (emit_inner _ hn' hz' hc h ha R).elim fun e1 e2 => e2.trans e1.symm
    · rw [ryEmit_right_ge _ x c R hc, ryEmit_left_ge c R x _ hc]
  · rw [ryEmit_left_ge a l x _ ha, ryEmit_right_ge _ x a l ha]

/-- the walk forwards from a split point of a residue and the walk backwards from the same point
count, between them, what the whole backward walk counts -/
theorem ry_split (k : Nat) : ∀ B A : List Int, Normal (A.reverse ++ B) → Zig (A.reverse ++ B) →
    unitsAt (peaksGo ryF A B) k + unitsAt (peaksGo ryF B A) k
      = unitsAt (peaksGo ryF [] (B.reverse ++ A)) k := by
  intro B
  induction B with
  | nil => intro A _ _; rw [peaksGo_nil, unitsAt_nil, Nat.zero_add]; rfl
  | cons x B ih =>
    intro A hn hz
    have e : (x :: A).reverse ++ B = A.reverse ++ x :: B := by simp
    have ih := ih (x :: A) (e ▸ hn) (e ▸ hz)
    rw [peaksGo_cons B x A, unitsAt_append] at ih
    rw [peaksGo_cons A x B, unitsAt_append, ryEmit_symm A B x hn hz, List.reverse_cons,
      List.append_assoc, List.singleton_append, ← ih]
    omega

theorem unitsAt_ite (p : Prop) [Decidable p] (c : Cyc) (k : Nat) (x : List Cyc) :
    unitsAt ((if p then [c] else []) ++ x) k = unitsAt (x ++ (if p then [c] else [])) k := by
  rw [unitsAt_append, unitsAt_append]; omega

/-- on a four-point residue the Rychlik histogram does not depend on the direction of time -/
theorem ry_normal_reverse (N : List Int) (hn : Normal N) (hz : Zig N) (k : Nat) :
    unitsAt (peaksGo ryF [] N.reverse) k = unitsAt (peaksGo ryF [] N) k := by
  have := ry_split k N [] hn hz
  rwa [peaksGo_nil, unitsAt_nil, Nat.add_zero, List.append_nil, eq_comm] at this

end FF
