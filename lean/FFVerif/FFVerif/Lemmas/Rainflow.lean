/- The equations of the stack machines (`reduce`, `rpReduce` / `rpForward`, `rpBack`, `fpRound` / `fpGo`, `implGo`):
one per case, what they do to a short input, that they only append to their output; `Dec`, consecutive ranges
shrinking, which the stacks maintain (read oldest first); rainflow: the deque loop of astmCounting.py equals the
ASTM stack machine; units and half cycles of a concatenation.  Core Lean only. -/
import FFVerif.Model.Cycle
import FFVerif.Props.Spec
namespace FF

/-- the fall-through case of `rpReduce`, `rpBack`, `implGo`: a list of no form `_ :: _ :: _ :: _` -/
theorem length_le_two {l : List Int} (h : ∀ c b a rest, l = c :: b :: a :: rest → False) : l.length ≤ 2 := by
  rcases l with _ | ⟨c, _ | ⟨b, _ | ⟨a, rest⟩⟩⟩
  · simp
  · simp
  · simp
  · exact (h c b a rest rfl).elim

theorem reduce_short_of {st : List Int} (h1 : ∀ c b a, st = [c, b, a] → False)
    (h2 : ∀ c b a r rest, st = c :: b :: a :: r :: rest → False) : st.length ≤ 2 :=
  length_le_two fun c b a rest e => by
    cases rest with
    | nil => exact h1 c b a e
    | cons r rest => exact h2 c b a r rest e

theorem reduce_two (x y : Int) (out : List Cyc) : reduce [x, y] out = ([x, y], out) := by
  rw [reduce] <;> simp
theorem reduce_one (x : Int) (out : List Cyc) : reduce [x] out = ([x], out) := by
  rw [reduce] <;> simp

theorem reduce_stable (c b a : Int) (rest : List Int) (out : List Cyc)
    (h : rng b c < rng a b) : reduce (c :: b :: a :: rest) out = (c :: b :: a :: rest, out) := by
  cases rest with
  | nil => rw [reduce]; simp [h]
  | cons r rest => rw [reduce]; simp [h]

theorem reduce_fire3 (c b a : Int) (o : List Cyc) (h : ¬ rng b c < rng a b) :
    reduce [c, b, a] o = ([c, b], o ++ [⟨a, b, true⟩]) := by
  rw [reduce]; simp only [h, if_false]; rw [reduce_two]

theorem reduce_fire4 (c b a r : Int) (rest : List Int) (o : List Cyc) (h : ¬ rng b c < rng a b) :
    reduce (c :: b :: a :: r :: rest) o = reduce (c :: r :: rest) (o ++ [⟨a, b, false⟩]) := by
  rw [reduce]; simp [h]

theorem astmGo_cons (st : List Int) (p : Int) (ps : List Int) (out : List Cyc) :
    astmGo st (p :: ps) out = astmGo (reduce (p :: st) out).1 ps (reduce (p :: st) out).2 := by
  rw [astmGo]

theorem rpReduce_short (st : List Int) (o : List Cyc) (h : st.length ≤ 2) : rpReduce st o = (st, o) := by
  rw [rpReduce]
  intro c b a rest e; subst e; simp at h

theorem rpReduce_fire (c b a : Int) (rest : List Int) (o : List Cyc) (h : rng a b ≤ rng b c) :
    rpReduce (c :: b :: a :: rest) o = rpReduce (c :: rest) (o ++ [⟨a, b, false⟩]) := by
  rw [rpReduce]; simp [h]

theorem rpReduce_stay (c b a : Int) (rest : List Int) (o : List Cyc) (h : ¬ rng a b ≤ rng b c) :
    rpReduce (c :: b :: a :: rest) o = (c :: b :: a :: rest, o) := by
  rw [rpReduce]; simp [h]

theorem rpReduce_out (st : List Int) (o' : List Cyc) : ∀ o : List Cyc,
    rpReduce st (o ++ o') = ((rpReduce st o').1, o ++ (rpReduce st o').2) := by
  fun_induction rpReduce st o' with
  | case1 c b a rest o' hle ih => intro o; rw [rpReduce_fire c b a rest _ hle, List.append_assoc]; exact ih o
  | case2 c b a rest o' hgt => intro o; rw [rpReduce_stay c b a rest _ hgt]
  | case3 st o' hne => intro o; rw [rpReduce]; exact hne

theorem rpForward_short (l : List Int) (h : l.length ≤ 2) : (rpForward [] l []).2 = [] := by
  rcases l with _ | ⟨a, _ | ⟨b, _ | ⟨c, t⟩⟩⟩
  · rfl
  · simp [rpForward, rpReduce]
  · simp [rpForward, rpReduce]
  · exact absurd h (by simp)

theorem rpForward_out (ps : List Int) : ∀ (st : List Int) (o o' : List Cyc),
    rpForward st ps (o ++ o') = ((rpForward st ps o').1, o ++ (rpForward st ps o').2) := by
  induction ps with
  | nil => intro st o o'; simp [rpForward]
  | cons p ps ih =>
    intro st o o'
    simp only [rpForward]
    rw [rpReduce_out (p :: st) o' o]
    exact ih _ _ _

theorem rpForward_append (ps qs : List Int) : ∀ (st : List Int) (o : List Cyc),
    rpForward st (ps ++ qs) o = rpForward (rpForward st ps o).1 qs (rpForward st ps o).2 := by
  induction ps with
  | nil => intro st o; simp [rpForward]
  | cons p ps ih => intro st o; simp only [List.cons_append, rpForward]; exact ih _ _

theorem rpBack_short (st : List Int) (o : List Cyc) (h : st.length ≤ 2) : rpBack st o = (st, o) := by
  rw [rpBack]
  intro c b a rest e; subst e; simp at h

theorem rpBack_extends (st : List Int) (out : List Cyc) : ∃ extra, (rpBack st out).2 = out ++ extra := by
  fun_induction rpBack st out with
  | case1 c b a rest out hle r ih =>
    obtain ⟨e, he⟩ := ih
    exact ⟨⟨b, c, false⟩ :: e, he.trans (List.append_assoc ..)⟩
  | case2 c b a rest out hgt r ih => exact ih
  | case3 st out hne => exact ⟨[], (List.append_nil _).symm⟩

theorem fpRound_shape (l : List Int) (cy : Cyc) (l' : List Int) : fpRound l = some (cy, l') →
    ∃ P a b c d Q, l = P ++ a :: b :: c :: d :: Q ∧ l' = P ++ a :: d :: Q ∧ cy = ⟨b, c, false⟩ ∧
      rng b c ≤ rng c d ∧ rng b c ≤ rng a b := by
  fun_induction fpRound l generalizing cy l' with
  | case1 a b c d rest hc => intro h; cases h; exact ⟨[], a, b, c, d, rest, rfl, rfl, rfl, hc.1, hc.2⟩
  | case2 a b c d rest hc cy2 l2 heq ih =>
    intro h; cases h
    obtain ⟨P, a', b', c', d', Q, e1, e2, e3⟩ := ih _ _ heq
    exact ⟨a :: P, a', b', c', d', Q, by rw [e1]; rfl, by rw [e2]; rfl, e3⟩
  | case3 a b c d rest hc heq ih => intro h; cases h
  | case4 l hl => intro h; cases h

theorem fpGo_fire (l : List Int) (out : List Cyc) (cy : Cyc) (l' : List Int)
    (h : fpRound l = some (cy, l')) : fpGo l out = fpGo l' (out ++ [cy]) := by
  rw [fpGo]
  split
  · rename_i cy2 l2 heq
    rw [h] at heq; cases heq; rfl
  · rename_i heq; rw [h] at heq; cases heq

theorem fpGo_none (l : List Int) (out : List Cyc) (h : fpRound l = none) : fpGo l out = (l, out) := by
  rw [fpGo]
  split
  · rename_i cy2 l2 heq
    rw [h] at heq; cases heq
  · rfl

theorem fpGo_short (l : List Int) (h : l.length ≤ 3) (out : List Cyc) : fpGo l out = (l, out) :=
  fpGo_none l out (by
    rw [fpRound]
    intro a b c d rest e
    rw [e] at h; simp at h)

theorem implGo_stay {a b c : Int} (h : rng b c < rng a b) (A rest : List Int) (flag : Bool) (out : List Cyc) :
    implGo A (a :: b :: c :: rest) flag out = implGo (A ++ [a]) (b :: c :: rest) false out := by
  rw [implGo, if_neg (by omega)]

theorem implGo_half {a b c : Int} (h : rng a b ≤ rng b c) (A rest : List Int) (out : List Cyc) :
    implGo A (a :: b :: c :: rest) true out = implGo [] (b :: c :: rest) true (out ++ [⟨a, b, true⟩]) := by
  rw [implGo, if_pos h, if_pos rfl]

theorem implGo_whole {a b c : Int} (h : rng a b ≤ rng b c) (A rest : List Int) (out : List Cyc) :
    implGo A (a :: b :: c :: rest) false out = implGo [] (A ++ c :: rest) true (out ++ [⟨a, b, false⟩]) := by
  rw [implGo, if_pos h, if_neg (by simp)]

theorem implGo_short (A B : List Int) (flag : Bool) (out : List Cyc) (hl : B.length ≤ 2) :
    implGo A B flag out = out ++ halves (A ++ B) := by
  rw [implGo]
  intro a b c rest e
  rw [e] at hl; simp at hl

/-- consecutive ranges strictly decreasing -/
def Dec : List Int → Prop
  | a :: b :: c :: rest => rng b c < rng a b ∧ Dec (b :: c :: rest)
  | _ => True

theorem Dec_short (l : List Int) (h : l.length ≤ 2) : Dec l := by
  fun_induction Dec l with
  | case1 a b c rest ih => simp at h
  | case2 l hl => trivial

theorem Dec_tail (x : Int) (l : List Int) (h : Dec (x :: l)) : Dec l := by
  fun_induction Dec l with
  | case1 a b c rest ih => exact h.2
  | case2 l hl => trivial

theorem Dec_drop (A l : List Int) (h : Dec (A ++ l)) : Dec l := by
  induction A with
  | nil => exact h
  | cons x A ih => exact ih (Dec_tail x _ h)

theorem Dec_head3 (A : List Int) (x y z : Int) (t : List Int) (h : Dec (A ++ x :: y :: z :: t)) :
    rng y z < rng x y := (Dec_drop A _ h).1

theorem Dec_snoc (A : List Int) (a b c : Int) (h : Dec (A ++ [a, b])) (hx : rng b c < rng a b) :
    Dec (A ++ [a, b, c]) := by
  induction A with
  | nil => exact ⟨hx, trivial⟩
  | cons x A ih =>
    rcases A with _ | ⟨y, _ | ⟨z, A⟩⟩
    · exact ⟨h.1, hx, trivial⟩
    · exact ⟨h.1, h.2.1, hx, trivial⟩
    · exact ⟨h.1, ih h.2⟩

theorem Dec_prefix (A B : List Int) (h : Dec (A ++ B)) : Dec A := by
  fun_induction Dec A with
  | case1 a b c rest ih => exact ⟨h.1, ih h.2⟩
  | case2 l hl => trivial

/-- the stack machines hold their points newest first: `Dec st.reverse`, read from the top of the stack `st` -/
theorem Dec_reverse_cons {c b a : Int} {rest : List Int} :
    Dec (c :: b :: a :: rest).reverse ↔ rng b c < rng a b ∧ Dec (b :: a :: rest).reverse := by
  simp only [List.reverse_cons, List.append_assoc, List.cons_append, List.nil_append]
  exact ⟨fun h => ⟨Dec_head3 _ a b c [] h, Dec_prefix _ [c] (by simpa using h)⟩,
    fun h => Dec_snoc _ a b c h.2 h.1⟩

theorem Dec_reverse_tail {x : Int} {l : List Int} (h : Dec (x :: l).reverse) : Dec l.reverse :=
  Dec_prefix l.reverse [x] (by simpa using h)

/-- a run of strictly decreasing ranges goes onto the stack without anything being counted -/
theorem astmGo_push (P st tail : List Int) (out : List Cyc) (hd : Dec (st.reverse ++ P)) :
    astmGo st (P ++ tail) out = astmGo (P.reverse ++ st) tail out := by
  induction P generalizing st with
  | nil => simp
  | cons x P ih =>
    have hs : reduce (x :: st) out = (x :: st, out) := by
      rcases st with _ | ⟨b, _ | ⟨a, r⟩⟩
      · exact reduce_one x out
      · exact reduce_two x b out
      · exact reduce_stable x b a r out (Dec_head3 r.reverse a b x P (by simpa using hd))
    rw [List.cons_append, astmGo_cons, hs, ih (x :: st) (by simpa using hd)]
    simp

theorem astmGo_two (L : List Int) (out : List Cyc) :
    astmGo (L.take 2).reverse (L.drop 2) out = astmGo [] L out := by
  simpa using (astmGo_push (L.take 2) [] (L.drop 2) out (Dec_short _ (List.length_take_le 2 L))).symm

/-! the stack machine in the three situations of the deque loop (`implGo_stay`, `implGo_half`, `implGo_whole`),
the incoming point `c` still to be read -/

theorem astmGo_stay {a b c : Int} (h : rng b c < rng a b) (S rest : List Int) (out : List Cyc) :
    astmGo (b :: a :: S) (c :: rest) out = astmGo (c :: b :: a :: S) rest out := by
  rw [astmGo_cons, reduce_stable c b a S out h]

theorem astmGo_half {a b c : Int} (h : rng a b ≤ rng b c) (rest : List Int) (out : List Cyc) :
    astmGo [b, a] (c :: rest) out = astmGo [c, b] rest (out ++ [⟨a, b, true⟩]) := by
  rw [astmGo_cons, reduce_fire3 c b a out (Nat.not_lt.mpr h)]

theorem astmGo_whole {a b c : Int} (h : rng a b ≤ rng b c) {S : List Int} (hS : S ≠ []) (rest : List Int)
    (out : List Cyc) : astmGo (b :: a :: S) (c :: rest) out = astmGo S (c :: rest) (out ++ [⟨a, b, false⟩]) := by
  obtain ⟨r, t, rfl⟩ := List.exists_cons_of_ne_nil hS
  rw [astmGo_cons, astmGo_cons (r :: t), reduce_fire4 c b a r t out (Nat.not_lt.mpr h)]

/-- the deque loop with `A` scanned and `B` to come is the stack machine holding `A` and the first two points
of `B`; the scanned ranges decrease -/
theorem implGo_eq_astmGo (A B : List Int) (flag : Bool) (out : List Cyc) (hf : flag = A.isEmpty)
    (hd : Dec (A ++ B.take 2)) :
    implGo A B flag out = astmGo (A ++ B.take 2).reverse (B.drop 2) out := by
  fun_induction implGo A B flag out with
  | case1 A out a b c rest hge ih =>
    -- Y contains S: half cycle, the start point moves on
    obtain rfl : A = [] := List.isEmpty_iff.mp hf.symm
    rw [ih rfl trivial]
    exact (astmGo_half hge rest out).symm
  | case2 A flag out a b c rest hge hfl ih =>
    -- whole cycle: the loop starts again and scans `A` anew; the stack machine still holds it
    have hA : A.reverse ≠ [] := fun e => hfl (by rw [hf, List.reverse_eq_nil_iff.mp e]; rfl)
    rw [ih rfl (Dec_short _ (List.length_take_le 2 _)), List.nil_append, astmGo_two,
      astmGo_push A [] (c :: rest) _ (Dec_prefix A _ hd), List.append_nil, List.reverse_append]
    exact (astmGo_whole hge hA rest out).symm
  | case3 A flag out a b c rest hlt ih =>
    -- X < Y: keep scanning; the stack is `c :: b :: a :: A.reverse`
    rw [ih (by simp) (by simpa using Dec_snoc A a b c hd (by omega))]
    simp only [List.reverse_append]
    exact (astmGo_stay (Nat.lt_of_not_le hlt) A.reverse rest out).symm
  | case4 A B flag out hB =>
    have := length_le_two hB
    rw [List.take_of_length_le this, List.drop_eq_nil_of_le this, astmGo, List.reverse_reverse]

theorem implGo_nil_eq_astm (R : List Int) : implGo [] R true [] = astm R := by
  rw [implGo_eq_astmGo [] R true [] rfl (Dec_short _ (List.length_take_le 2 R))]
  exact astmGo_two R []

theorem rainflow_eq_astm (h : List Int) : rainflow h = astm (pv true h) := implGo_nil_eq_astm _

theorem totalUnits_append (a b : List Cyc) : totalUnits (a ++ b) = totalUnits a + totalUnits b := by
  simp [totalUnits]

theorem totalUnits_halves (l : List Int) : totalUnits (halves l) = l.length - 1 := by
  induction l with
  | nil => rfl
  | cons a l ih =>
    cases l with
    | nil => rfl
    | cons b rest =>
      rw [show totalUnits (halves (a :: b :: rest)) = 1 + totalUnits (halves (b :: rest)) from rfl, ih]
      exact Nat.add_comm 1 _

theorem totalUnits_wholes {cs : List Cyc} (hw : ∀ c ∈ cs, c.half = false) : totalUnits cs = 2 * cs.length := by
  induction cs with
  | nil => rfl
  | cons c cs ih =>
    rw [show totalUnits (c :: cs) = c.units + totalUnits cs from rfl, ih fun c' h => hw c' (List.mem_cons_of_mem _ h),
      Cyc.units, hw c List.mem_cons_self, List.length_cons, Nat.mul_succ]
    exact Nat.add_comm 2 _

theorem halves_half (l : List Int) : ∀ cy ∈ halves l, cy.half = true := by
  fun_induction halves l with
  | case1 a b rest ih =>
    intro cy h
    rcases List.mem_cons.mp h with rfl | h
    · rfl
    · exact ih cy h
  | case2 l h => intro cy h; cases h

/-- the half cycles of `C ++ V`: those up to the first point of `V`, then those of `V` -/
theorem halves_append_take (C V : List Int) : halves (C ++ V) = halves (C ++ V.take 1) ++ halves V := by
  induction C with
  | nil => cases V <;> rfl
  | cons d C ih =>
    cases C with
    | nil => cases V <;> rfl
    | cons e C => exact congrArg (List.cons _) ih

theorem halves_snoc (Y : List Int) (b a : Int) : halves (Y ++ [b, a]) = halves (Y ++ [b]) ++ [⟨b, a, true⟩] :=
  halves_append_take Y [b, a]

end FF
