/- Rainflow: whole cycles are only ever closed hysteresis loops.  Core Lean only.

An instrumented copy of the three-point stack machine records, for each whole cycle `a–b` it
extracts, the two neighbours at extraction time: `r` (before `a`) and `c` (after `b`); the stack
is then `c :: b :: a :: r :: rest`.  Erasing the witnesses gives exactly `astm R`, and every
recorded quadruple satisfies `rng a b ≤ rng b c ∧ rng a b < rng r a`. -/
import FFVerif.Lemmas.Census
import FFVerif.Lemmas.PeakValley
namespace FF

/-- a counted cycle together with the neighbours `(r, c)` at extraction time (whole cycles only) -/
structure WCyc where
  cyc : Cyc
  nb : Option (Int × Int)

/-- `reduce`, recording the neighbours of every whole cycle -/
def reduceW : List Int → List WCyc → List Int × List WCyc
  | [c, b, a], out =>
    if rng b c < rng a b then ([c, b, a], out)
    else reduceW [c, b] (out ++ [⟨⟨a, b, true⟩, none⟩])
  | c :: b :: a :: r :: rest, out =>
    if rng b c < rng a b then (c :: b :: a :: r :: rest, out)
    else reduceW (c :: r :: rest) (out ++ [⟨⟨a, b, false⟩, some (r, c)⟩])
  | st, out => (st, out)
termination_by st _ => st.length

def astmGoW : List Int → List Int → List WCyc → List WCyc
  | st, [], out => out ++ (halves st.reverse).map (fun cy => ⟨cy, none⟩)
  | st, p :: ps, out =>
    let r := reduceW (p :: st) out
    astmGoW r.1 ps r.2

def astmW (R : List Int) : List WCyc := astmGoW [] R []

def erase (ws : List WCyc) : List Cyc := ws.map WCyc.cyc

theorem reduceW_erase (st : List Int) (out : List WCyc) :
    (reduceW st out).1 = (reduce st (erase out)).1 ∧
    erase (reduceW st out).2 = (reduce st (erase out)).2 := by
  fun_induction reduceW st out with
  | case1 c b a out h => rw [reduce]; simp [h]
  | case2 c b a out h ih =>
    rw [reduce]; simp only [h, if_false]
    simpa [erase] using ih
  | case3 c b a r rest out h => rw [reduce]; simp [h]
  | case4 c b a r rest out h ih =>
    rw [reduce]; simp only [h, if_false]
    simpa [erase] using ih
  | case5 st out h1 h2 =>
    rw [reduce]
    · exact ⟨rfl, rfl⟩
    · exact h1
    · exact h2

theorem astmGoW_erase (st ps : List Int) (out : List WCyc) :
    erase (astmGoW st ps out) = astmGo st ps (erase out) := by
  induction ps generalizing st out with
  | nil =>
    rw [astmGoW, astmGo, erase, List.map_append]
    simp [erase, Function.comp_def]
  | cons p ps ih =>
    rw [astmGoW, astmGo_cons]
    rw [ih, (reduceW_erase (p :: st) out).1, (reduceW_erase (p :: st) out).2]

theorem astmW_erase (R : List Int) : erase (astmW R) = astm R := by
  unfold astmW astm; rw [astmGoW_erase]; rfl

/-- half cycles carry no witness; a whole cycle `a–b` carries neighbours `(r, c)` with the range
`a–b` not larger than the following range `b–c` and strictly smaller than the preceding `r–a` -/
def WCyc.closed (w : WCyc) : Prop :=
  (w.cyc.half = true ∧ w.nb = none) ∨
  (w.cyc.half = false ∧ ∃ r c, w.nb = some (r, c) ∧
    rng w.cyc.a w.cyc.b ≤ rng w.cyc.b c ∧ rng w.cyc.a w.cyc.b < rng r w.cyc.a)

/-- the preceding range is larger because the ranges on the stack shrink (`Dec`), the following one by the
test that fires -/
theorem reduceW_closed (st : List Int) (out : List WCyc) (hd : Dec st.tail.reverse)
    (ho : ∀ w ∈ out, w.closed) : ∀ w ∈ (reduceW st out).2, w.closed := by
  fun_induction reduceW st out with
  | case1 c b a out h => exact ho
  | case2 c b a out h ih =>
    exact ih trivial (List.forall_mem_append.mpr ⟨ho, List.forall_mem_singleton.mpr (Or.inl ⟨rfl, rfl⟩)⟩)
  | case3 c b a r rest out h => exact ho
  | case4 c b a r rest out h ih =>
    obtain ⟨h1, hd'⟩ := Dec_reverse_cons.mp hd
    exact ih (Dec_reverse_tail hd') (List.forall_mem_append.mpr ⟨ho, List.forall_mem_singleton.mpr
      (Or.inr ⟨rfl, r, c, rfl, by show rng a b ≤ rng b c; omega, h1⟩)⟩)
  | case5 st out h1 h2 => exact ho

theorem astmGoW_closed (st ps : List Int) (out : List WCyc) (hd : Dec st.reverse)
    (ho : ∀ w ∈ out, w.closed) : ∀ w ∈ astmGoW st ps out, w.closed := by
  induction ps generalizing st out with
  | nil =>
    rw [astmGoW]
    exact List.forall_mem_append.mpr ⟨ho, List.forall_mem_map.mpr fun cy hcy => Or.inl ⟨halves_half _ cy hcy, rfl⟩⟩
  | cons p ps ih =>
    rw [astmGoW]
    obtain ⟨_, _, _, d⟩ := reduce_run (p :: st) (erase out) [] hd
    exact ih _ _ ((reduceW_erase (p :: st) out).1 ▸ d) (reduceW_closed (p :: st) out hd ho)

/-- C01, closed-loop clause, for every history: the rainflow count of `h` is the instrumented
three-point count of its reversal sequence with the witnesses erased, and every whole cycle
`a–b` of that count was extracted between neighbours `r` (before `a`) and `c` (after `b`) with
`rng a b ≤ rng b c` and `rng a b < rng r a` -/
theorem C01_whole_closed (h : List Int) :
    erase (astmW (reversals h)) = rainflow h ∧
    ∀ w ∈ astmW (reversals h),
      (w.cyc.half = true ∧ w.nb = none) ∨
      (w.cyc.half = false ∧ ∃ r c, w.nb = some (r, c) ∧
        rng w.cyc.a w.cyc.b ≤ rng w.cyc.b c ∧ rng w.cyc.a w.cyc.b < rng r w.cyc.a) := by
  refine ⟨?_, astmGoW_closed [] _ [] trivial (by simp)⟩
  rw [astmW_erase, rainflow_eq_astm, pv_true_eq_reversals]

-- non-vacuity: the ASTM figure-6 history has one closed loop, -1..3 inside 5..-1 and 3..-4
example : (astmW (reversals [-2, 1, -3, 5, -1, 3, -4, 4, -2])).filterMap
    (fun w => w.nb.map (fun n => (n.1, w.cyc.a, w.cyc.b, n.2))) = [(5, -1, 3, -4)] := by
  simp [astmW, astmGoW, reduceW, reversals, dedup, turning, lastD, rng, halves]

end FF
