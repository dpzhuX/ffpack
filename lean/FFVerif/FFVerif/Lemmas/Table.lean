/- Count tables: one key-sorted insertion `accAdd` (`tblAdd` is it: `tblAdd_eq`; likewise `itblAdd_eq` in Level.lean,
`aggAdd_eq` in Signal.lean, `collapse_eq` in Collapse.lean), and `accAll E []` is the one sorted table with positive
amounts whose count function `cnt` is that of `E`.  Core Lean only. -/
import FFVerif.Props.Spec
namespace FF

section
variable {α : Type} [DecidableEq α]

def cnt (t : List (α × Nat)) (k : α) : Nat := ((t.filter (fun p => p.1 == k)).map (·.2)).sum

theorem cnt_cons (a : α × Nat) (t : List (α × Nat)) (k : α) :
    cnt (a :: t) k = (if a.1 = k then a.2 else 0) + cnt t k := by
  unfold cnt
  by_cases h : a.1 = k <;> simp [h]

theorem cnt_append (s t : List (α × Nat)) (k : α) : cnt (s ++ t) k = cnt s k + cnt t k := by
  simp [cnt, List.filter_append]

theorem cnt_of_not_mem (t : List (α × Nat)) (k : α) (h : ∀ p ∈ t, p.1 ≠ k) : cnt t k = 0 := by
  induction t with
  | nil => rfl
  | cons a t ih =>
    rw [cnt_cons, ih (fun p hp => h p (List.mem_cons_of_mem _ hp)), if_neg (h a List.mem_cons_self)]

theorem cnt_filter_ne_zero (E : List (α × Nat)) (k : α) :
    cnt (E.filter (fun p => p.2 != 0)) k = cnt E k := by
  induction E with
  | nil => rfl
  | cons e E ih =>
    by_cases h : e.2 = 0
    · rw [List.filter_cons_of_neg (by simpa using h), ih, cnt_cons, h, ite_self, Nat.zero_add]
    · rw [List.filter_cons_of_pos (by simpa using h), cnt_cons, cnt_cons, ih]

theorem exists_key_of_cnt_pos {t : List (α × Nat)} {k : α} (h : 0 < cnt t k) : ∃ p ∈ t, p.1 = k :=
  Classical.byContradiction fun hne =>
    Nat.lt_irrefl 0 (cnt_of_not_mem t k (fun p hp he => hne ⟨p, hp, he⟩) ▸ h)

end

section
variable {α : Type} [DecidableEq α] [LT α] [DecidableLT α]

def accAdd (k : α) (u : Nat) : List (α × Nat) → List (α × Nat)
  | [] => [(k, u)]
  | (k', u') :: t =>
    if k < k' then (k, u) :: (k', u') :: t
    else if k = k' then (k', u' + u) :: t
    else (k', u') :: accAdd k u t

def accAll (E t : List (α × Nat)) : List (α × Nat) := E.foldl (fun t p => accAdd p.1 p.2 t) t

theorem mem_accAdd {k : α} {u : Nat} {t : List (α × Nat)} {p : α × Nat} (h : p ∈ accAdd k u t) :
    p ∈ t ∨ p.1 = k ∧ u ≤ p.2 := by
  fun_induction accAdd k u t with
  | case1 => exact Or.inr (List.mem_singleton.mp h ▸ ⟨rfl, Nat.le_refl _⟩)
  | case2 k' u' t _ =>
    exact (List.mem_cons.mp h).elim (fun e => Or.inr (e ▸ ⟨rfl, Nat.le_refl _⟩)) Or.inl
  | case3 u' t _ =>
    exact (List.mem_cons.mp h).elim (fun e => Or.inr (e ▸ ⟨rfl, Nat.le_add_left _ _⟩))
      fun h => Or.inl (List.mem_cons_of_mem _ h)
  | case4 k' u' t _ _ ih =>
    exact (List.mem_cons.mp h).elim (fun e => Or.inl (e ▸ List.mem_cons_self))
      fun h => (ih h).imp_left (List.mem_cons_of_mem _)

theorem mem_keys_accAdd {k : α} {u : Nat} {t : List (α × Nat)} {k' : α} :
    k' ∈ (accAdd k u t).map (·.1) ↔ k' = k ∨ k' ∈ t.map (·.1) := by
  fun_induction accAdd k u t with
  | case1 => exact List.mem_singleton.trans (or_iff_left List.not_mem_nil).symm
  | case2 k₁ u₁ t _ => exact List.mem_cons
  | case3 u₁ t _ => rw [List.map_cons, List.mem_cons, List.map_cons, List.mem_cons]; exact or_self_left.symm
  | case4 k₁ u₁ t _ _ ih => rw [List.map_cons, List.mem_cons, ih, List.map_cons, List.mem_cons]; exact or_left_comm

theorem accAdd_pos {k : α} {u : Nat} (hu : 0 < u) {t : List (α × Nat)} (h : ∀ p ∈ t, 0 < p.2) :
    ∀ p ∈ accAdd k u t, 0 < p.2 := fun p hp =>
  (mem_accAdd hp).elim (h p) fun h' => Nat.lt_of_lt_of_le hu h'.2

theorem cnt_accAdd (k : α) (u : Nat) (t : List (α × Nat)) (k' : α) :
    cnt (accAdd k u t) k' = cnt t k' + (if k = k' then u else 0) := by
  fun_induction accAdd k u t with
  | case1 => rw [cnt_cons, Nat.add_comm]
  | case2 k₁ u₁ t _ => rw [cnt_cons, Nat.add_comm]
  | case3 u₁ t _ =>
    rw [cnt_cons, cnt_cons, Nat.add_right_comm]
    split <;> rfl
  | case4 k₁ u₁ t _ _ ih => rw [cnt_cons, cnt_cons, ih, Nat.add_assoc]

theorem sum_accAdd (k : α) (u : Nat) (t : List (α × Nat)) :
    ((accAdd k u t).map (·.2)).sum = (t.map (·.2)).sum + u := by
  fun_induction accAdd k u t with
  | case1 => exact Nat.add_comm _ _
  | case2 => exact Nat.add_comm _ _
  | case3 => exact Nat.add_right_comm _ _ _
  | case4 k₁ u₁ t _ _ ih => rw [List.map_cons, List.sum_cons, ih, ← Nat.add_assoc]; rfl

theorem accAll_cons (e : α × Nat) (E t : List (α × Nat)) : accAll (e :: E) t = accAll E (accAdd e.1 e.2 t) := rfl

theorem cnt_accAll (E t : List (α × Nat)) (k : α) : cnt (accAll E t) k = cnt t k + cnt E k := by
  induction E generalizing t with
  | nil => rfl
  | cons e E ih => rw [accAll_cons, ih, cnt_accAdd, cnt_cons, Nat.add_assoc]

theorem sum_accAll (E t : List (α × Nat)) :
    ((accAll E t).map (·.2)).sum = (t.map (·.2)).sum + (E.map (·.2)).sum := by
  induction E generalizing t with
  | nil => rfl
  | cons e E ih => rw [accAll_cons, ih, sum_accAdd, List.map_cons, List.sum_cons, Nat.add_assoc]

theorem mem_keys_accAll {E t : List (α × Nat)} {k : α} :
    k ∈ (accAll E t).map (·.1) ↔ k ∈ E.map (·.1) ∨ k ∈ t.map (·.1) := by
  induction E generalizing t with
  | nil => exact (or_iff_right List.not_mem_nil).symm
  | cons e E ih =>
    rw [accAll_cons, ih, mem_keys_accAdd, List.map_cons, List.mem_cons]
    exact or_left_comm.trans or_assoc.symm

theorem accAll_pos {E t : List (α × Nat)} (hE : ∀ p ∈ E, 0 < p.2) (h : ∀ p ∈ t, 0 < p.2) :
    ∀ p ∈ accAll E t, 0 < p.2 := by
  induction E generalizing t with
  | nil => exact h
  | cons e E ih =>
    exact ih (fun p hp => hE p (List.mem_cons_of_mem _ hp)) (accAdd_pos (hE e List.mem_cons_self) h)

end

section
variable {α β : Type} [DecidableEq α] [LT α] [DecidableLT α] [DecidableEq β] [LT β] [DecidableLT β]

/-- insertion commutes with a strictly increasing change of keys -/
theorem accAdd_map (g : α → β) (hlt : ∀ a b, g a < g b ↔ a < b) (heq : ∀ a b, g a = g b ↔ a = b)
    (k : α) (u : Nat) (t : List (α × Nat)) :
    accAdd (g k) u (t.map fun p => (g p.1, p.2)) = (accAdd k u t).map fun p => (g p.1, p.2) := by
  fun_induction accAdd k u t with
  | case1 => rfl
  | case2 k' u' t h => simp only [List.map_cons, accAdd, if_pos ((hlt _ _).mpr h)]
  | case3 u' t h => simp only [List.map_cons, accAdd, if_neg (mt (hlt _ _).mp h), if_pos]
  | case4 k' u' t h1 h2 ih =>
    simp only [List.map_cons, accAdd, if_neg (mt (hlt _ _).mp h1), if_neg (mt (heq _ _).mp h2), ih]

end

section
variable {α : Type} [LT α]

def KeysSorted (t : List (α × Nat)) : Prop := t.Pairwise (fun a b => a.1 < b.1)

theorem KeysSorted.nil : KeysSorted ([] : List (α × Nat)) := List.Pairwise.nil

/-- in a sorted table an entry whose key no other key exceeds is the last -/
theorem KeysSorted.getLast {t : List (α × Nat)} (hs : KeysSorted t) {p : α × Nat} (hp : p ∈ t)
    (hmax : ∀ q ∈ t, ¬ p.1 < q.1) : t.getLast? = some p := by
  obtain ⟨s, r, rfl⟩ := List.append_of_mem hp
  cases r with
  | nil => exact List.getLast?_concat
  | cons q r =>
    exact absurd ((List.pairwise_cons.mp (List.pairwise_append.mp hs).2.1).1 q List.mem_cons_self)
      (hmax q (List.mem_append_right _ (List.mem_cons_of_mem _ List.mem_cons_self)))

variable [DecidableEq α] [LE α] [Std.LawfulOrderLT α]

theorem cnt_of_mem (t : List (α × Nat)) (hs : KeysSorted t) (p : α × Nat) (hp : p ∈ t) : cnt t p.1 = p.2 := by
  unfold KeysSorted at hs
  induction t with
  | nil => cases hp
  | cons a t ih =>
    have h' := List.pairwise_cons.mp hs
    rw [cnt_cons]
    rcases List.mem_cons.mp hp with rfl | hp
    · rw [cnt_of_not_mem t p.1 (fun q hq => (Std.ne_of_lt (h'.1 q hq)).symm), if_pos rfl]; rfl
    · rw [ih h'.2 hp, if_neg (Std.ne_of_lt (h'.1 p hp)), Nat.zero_add]

/-- a sorted table with positive amounts is read off its count function -/
theorem mem_iff_cnt {t : List (α × Nat)} (hs : KeysSorted t) (hp : ∀ p ∈ t, 0 < p.2) (p : α × Nat) :
    p ∈ t ↔ 0 < p.2 ∧ cnt t p.1 = p.2 := by
  refine ⟨fun h => ⟨hp p h, cnt_of_mem t hs p h⟩, fun ⟨h0, h⟩ => ?_⟩
  obtain ⟨q, hq, hk⟩ := exists_key_of_cnt_pos (h ▸ h0)
  exact Prod.ext (x := q) hk (by rw [← cnt_of_mem t hs q hq, hk, h]) ▸ hq

omit [DecidableEq α] in
theorem KeysSorted.nodup {t : List (α × Nat)} (hs : KeysSorted t) : t.Nodup :=
  List.Pairwise.imp (S := (· ≠ ·)) (fun h e => Std.lt_irrefl (a := _) (e ▸ h)) hs

variable [Std.IsLinearOrder α]

omit [DecidableEq α] in
/-- by transitivity only neighbours need comparing -/
theorem keysSorted_cons_cons {a b : α × Nat} {t : List (α × Nat)} :
    KeysSorted (a :: b :: t) ↔ a.1 < b.1 ∧ KeysSorted (b :: t) := by
  refine ⟨fun h => ⟨(List.pairwise_cons.mp h).1 b List.mem_cons_self, (List.pairwise_cons.mp h).2⟩,
    fun ⟨hab, hs⟩ => List.pairwise_cons.mpr ⟨fun c hc => ?_, hs⟩⟩
  rcases List.mem_cons.mp hc with rfl | hc
  · exact hab
  · exact Std.lt_trans hab ((List.pairwise_cons.mp hs).1 c hc)

/-- two sorted tables with the same entries are equal, and the entries are read off the count function -/
theorem table_ext (t t' : List (α × Nat)) (hs : KeysSorted t) (hs' : KeysSorted t')
    (hp : ∀ p ∈ t, 0 < p.2) (hp' : ∀ p ∈ t', 0 < p.2) (h : ∀ k, cnt t k = cnt t' k) : t = t' := by
  refine ((List.perm_ext_iff_of_nodup hs.nodup hs'.nodup).mpr fun p => ?_).eq_of_pairwise
    (fun a b _ _ h1 h2 => absurd (Std.lt_trans h1 h2) Std.lt_irrefl) hs hs'
  rw [mem_iff_cnt hs hp, mem_iff_cnt hs' hp', h]

variable [DecidableLT α]

theorem accAdd_sorted (k : α) (u : Nat) (t : List (α × Nat)) (h : KeysSorted t) : KeysSorted (accAdd k u t) := by
  fun_induction accAdd k u t with
  | case1 => exact List.pairwise_singleton _ _
  | case2 k' u' t hlt => exact keysSorted_cons_cons.mpr ⟨hlt, h⟩
  | case3 u' t _ => exact List.pairwise_cons.mpr (List.pairwise_cons.mp h)
  | case4 k' u' t h1 h2 ih =>
    have h' := List.pairwise_cons.mp h
    refine List.pairwise_cons.mpr ⟨fun c hc => ?_, ih h'.2⟩
    rcases mem_accAdd hc with hc | ⟨hc, _⟩
    · exact h'.1 c hc
    · rw [hc]; exact ((Std.lt_trichotomy k k').resolve_left h1).resolve_left h2

theorem accAll_sorted (E : List (α × Nat)) {t : List (α × Nat)} (h : KeysSorted t) : KeysSorted (accAll E t) := by
  induction E generalizing t with
  | nil => exact h
  | cons e E ih => exact ih (accAdd_sorted _ _ _ h)

theorem accAll_congr {E E' : List (α × Nat)} (hE : ∀ p ∈ E, 0 < p.2) (hE' : ∀ p ∈ E', 0 < p.2)
    (h : ∀ k, cnt E k = cnt E' k) : accAll E [] = accAll E' [] :=
  table_ext _ _ (accAll_sorted E .nil) (accAll_sorted E' .nil) (accAll_pos hE fun _ h => nomatch h)
    (accAll_pos hE' fun _ h => nomatch h)
    (fun k => by rw [cnt_accAll, cnt_accAll, h k])

end


theorem tblAdd_eq (k u : Nat) (t : List (Nat × Nat)) : tblAdd k u t = accAdd k u t := by
  induction t with
  | nil => rfl
  | cons a t ih => simp only [tblAdd, accAdd, ih]

theorem table_eq (cs : List Cyc) : table cs = accAll (cs.map fun c => (c.range, c.units)) [] := by
  simp only [table, accAll, List.foldl_map, tblAdd_eq]

theorem unitsAt_eq_cnt (cs : List Cyc) (k : Nat) : unitsAt cs k = cnt (cs.map fun c => (c.range, c.units)) k := by
  simp only [unitsAt, cnt, List.filter_map, List.map_map]; rfl

theorem unitsAt_cons (c : Cyc) (cs : List Cyc) (k : Nat) :
    unitsAt (c :: cs) k = (if c.range = k then c.units else 0) + unitsAt cs k := by
  simp only [unitsAt_eq_cnt, List.map_cons, cnt_cons]

theorem unitsAt_nil (k : Nat) : unitsAt [] k = 0 := rfl

theorem unitsAt_append (a b : List Cyc) (k : Nat) : unitsAt (a ++ b) k = unitsAt a k + unitsAt b k := by
  simp only [unitsAt_eq_cnt, List.map_append, cnt_append]

theorem unitsAt_cons' (c : Cyc) (cs : List Cyc) (k : Nat) :
    unitsAt (c :: cs) k = unitsAt [c] k + unitsAt cs k :=
  unitsAt_append [c] cs k

theorem unitsAt_single (c : Cyc) (k : Nat) : unitsAt [c] k = if c.range = k then c.units else 0 := by
  rw [unitsAt_cons]; rfl

theorem unitsAt_single_whole (c c' : Cyc) (hc : c.half = false) (hc' : c'.half = false)
    (hr : c.range = c'.range) (k : Nat) : unitsAt [c] k = unitsAt [c'] k := by
  rw [unitsAt_single, unitsAt_single]; simp [Cyc.units, hc, hc', hr]

theorem cnt_table (cs : List Cyc) (k : Nat) : cnt (table cs) k = unitsAt cs k := by
  rw [table_eq, cnt_accAll, unitsAt_eq_cnt]; exact Nat.zero_add _

theorem table_sorted (cs : List Cyc) : KeysSorted (table cs) := table_eq cs ▸ accAll_sorted _ .nil

theorem Cyc.units_pos (c : Cyc) : 0 < c.units := by unfold Cyc.units; split <;> omega

theorem table_pos (cs : List Cyc) : ∀ p ∈ table cs, 0 < p.2 :=
  table_eq cs ▸ accAll_pos (List.forall_mem_map.mpr fun c _ => c.units_pos) fun _ h => nomatch h

theorem table_eq_of_unitsAt (cs cs' : List Cyc) (h : ∀ k, unitsAt cs k = unitsAt cs' k) : table cs = table cs' := by
  rw [table_eq, table_eq]
  exact accAll_congr (List.forall_mem_map.mpr fun c _ => c.units_pos) (List.forall_mem_map.mpr fun c _ => c.units_pos)
    fun k => by rw [← unitsAt_eq_cnt, ← unitsAt_eq_cnt, h k]

/-- the keys of the table are the ranges of the cycles -/
theorem key_mem_table {cs : List Cyc} {k : Nat} : (∃ p ∈ table cs, p.1 = k) ↔ ∃ c ∈ cs, c.range = k := by
  rw [← List.mem_map, table_eq, mem_keys_accAll, List.map_map, List.mem_map]
  exact or_iff_left List.not_mem_nil

theorem keysAscending_iff (t : List (Nat × Nat)) : keysAscending t = true ↔ KeysSorted t := by
  induction t with
  | nil => exact ⟨fun _ => .nil, fun _ => rfl⟩
  | cons a t ih =>
    cases t with
    | nil => exact ⟨fun _ => List.pairwise_singleton _ _, fun _ => rfl⟩
    | cons b t => rw [keysAscending, Bool.and_eq_true, decide_eq_true_eq, ih, keysSorted_cons_cons]

/-- the table computed by the model is exactly the histogram of the cycle list -/
theorem isHistogram_table (cs : List Cyc) : isHistogram cs (table cs) = true := by
  unfold isHistogram
  simp only [Bool.and_eq_true, List.all_eq_true, List.any_eq_true, decide_eq_true_eq, beq_iff_eq]
  exact ⟨⟨(keysAscending_iff _).mpr (table_sorted cs), fun p hp =>
    ⟨table_pos cs p hp, by rw [← cnt_table, cnt_of_mem _ (table_sorted cs) p hp]⟩⟩,
    fun c hc => key_mem_table.mpr ⟨c, hc, rfl⟩⟩

/-- the last key of the table is the largest counted range -/
theorem table_getLast (cs : List Cyc) (k : Nat) (hex : ∃ c ∈ cs, c.range = k)
    (hle : ∀ c ∈ cs, c.range ≤ k) : ∃ p, (table cs).getLast? = some p ∧ p.1 = k := by
  obtain ⟨p, hp, rfl⟩ := key_mem_table.mpr hex
  refine ⟨p, (table_sorted cs).getLast hp fun q hq => ?_, rfl⟩
  obtain ⟨d, hd, hdr⟩ := key_mem_table.mp ⟨q, hq, rfl⟩
  exact Nat.not_lt.mpr (hdr ▸ hle d hd)

end FF
