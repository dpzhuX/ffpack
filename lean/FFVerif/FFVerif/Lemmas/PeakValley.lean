/- De-plateauing (`dedup`: its equations; its output has no repeated neighbours, `NoRep`) and the peak-valley
filter: it returns the reversal sequence (without its ends for `keepEnds=False`).  Core Lean only. -/
import FFVerif.Props.Spec
namespace FF

theorem dedup_cons_ne (a b : Int) (l : List Int) (h : a ≠ b) :
    dedup (a :: b :: l) = a :: dedup (b :: l) := by
  rw [dedup, if_neg h]

theorem dedup_cons_eq (a : Int) (l : List Int) :
    dedup (a :: a :: l) = dedup (a :: l) := by
  rw [dedup, if_pos rfl]

theorem dedup_head (a : Int) (l : List Int) : ∃ t, dedup (a :: l) = a :: t := by
  induction l generalizing a with
  | nil => exact ⟨[], rfl⟩
  | cons b l ih =>
    by_cases h : a = b
    · subst h
      exact (ih a).imp fun t ht => (dedup_cons_eq a l).trans ht
    · exact ⟨dedup (b :: l), dedup_cons_ne a b l h⟩

/-- no two neighbours equal: what `dedup` leaves -/
def NoRep : List Int → Prop
  | a :: b :: rest => a ≠ b ∧ NoRep (b :: rest)
  | _ => True

theorem NoRep.tail {x : Int} {l : List Int} (h : NoRep (x :: l)) : NoRep l := by
  cases l with
  | nil => trivial
  | cons _ _ => exact h.2

theorem NoRep.suffix (P : List Int) {S : List Int} (h : NoRep (P ++ S)) : NoRep S := by
  induction P with
  | nil => exact h
  | cons x P ih => exact ih h.tail

theorem dedup_noRep (l : List Int) : NoRep (dedup l) := by
  fun_induction dedup l with
  | case1 b rest ih => exact ih
  | case2 a b rest h ih =>
    obtain ⟨t, ht⟩ := dedup_head b rest
    rw [ht] at ih ⊢
    exact ⟨h, ih⟩
  | case3 l hl =>
    match l, hl with
    | [], _ => trivial
    | [_], _ => trivial
    | a :: b :: rest, hl => exact (hl a b rest rfl).elim

theorem lastD_dedup (l : List Int) (d : Int) : lastD (dedup l) d = lastD l d := by
  fun_induction dedup l generalizing d with
  | case1 b rest ih => exact ih d
  | case2 a b rest h ih => exact ih a
  | case3 l hl => rfl

theorem turning_congr (a a' b : Int) (l : List Int)
    (h1 : a < b ↔ a' < b) (h2 : a > b ↔ a' > b) :
    turning (a :: b :: l) = turning (a' :: b :: l) := by
  cases l with
  | nil => rfl
  | cons c l => simp only [turning, h1, h2]

/-- `turning ∘ dedup` obeys the recursion of the filter loop: `cur` is judged against the last kept
point `p` and its own successor, and a point that is not kept is forgotten -/
theorem turning_dedup_step (p cur next : Int) (rest : List Int) :
    turning (dedup (p :: cur :: next :: rest)) =
      if (p < cur ∧ cur > next) ∨ (p > cur ∧ cur < next) then cur :: turning (dedup (cur :: next :: rest))
      else turning (dedup (p :: next :: rest)) := by
  obtain ⟨t, ht⟩ := dedup_head next rest
  by_cases hpc : p = cur
  · rw [hpc, dedup_cons_eq, if_neg (by omega)]
  · rw [dedup_cons_ne p cur _ hpc]
    by_cases hcn : cur = next
    · rw [hcn, dedup_cons_eq, dedup_cons_ne p next _ (hcn ▸ hpc), if_neg (by omega)]
    · rw [dedup_cons_ne cur next _ hcn, ht, turning]
      split
      · rfl
      · -- `p, cur, next` is monotone: `p` and `cur` lie on the same side of `next`
        rw [dedup_cons_ne p next _ (by omega), ht]
        exact turning_congr _ _ _ _ (by omega) (by omega)

theorem pvGo_char' (k : Bool) (l : List Int) (p : Int) (hl : l ≠ []) :
    pvGo k p l = turning (dedup (p :: l)) ++ (if k then [lastD l p] else []) := by
  fun_induction pvGo k p l with
  | case1 => exact absurd rfl hl
  | case2 p last hk =>
    by_cases h : p = last
    · subst h; simp [dedup, turning, lastD, hk]
    · simp [dedup, turning, lastD, h, hk]
  | case3 p last hk =>
    by_cases h : p = last
    · subst h; simp [dedup, turning, hk]
    · simp [dedup, turning, h, hk]
  | case4 p cur next rest h ih => rw [turning_dedup_step, if_pos h, ih (by simp)]; rfl
  | case5 p cur next rest h ih => rw [turning_dedup_step, if_neg h, ih (by simp)]; rfl

/-- `sequencePeakValleyFilter( data, keepEnds=True )` is the reversal sequence of `data` -/
theorem pv_true_eq_reversals : ∀ h : List Int, pv true h = reversals h
  | [] => rfl
  | [x] => by simp [pv, pvGo, reversals]
  | x :: y :: rest => by
    have := pvGo_char' true (y :: rest) x (by simp)
    simp [pv, reversals, this]

/-- `sequencePeakValleyFilter( data, keepEnds=False )` is the list of strict turning points -/
theorem pv_false_eq_turning : ∀ h : List Int, pv false h = turning (dedup h)
  | [] => rfl
  | [x] => by simp [pv, pvGo, dedup, turning]
  | x :: y :: rest => by
    have := pvGo_char' false (y :: rest) x (by simp)
    simp [pv, this]

end FF
