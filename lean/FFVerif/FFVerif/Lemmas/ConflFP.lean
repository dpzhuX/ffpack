/- The four-point counter is one maximal extraction sequence of the rewriting system of Confl.lean;
the system is symmetric under time reversal.  Core Lean only. -/
import FFVerif.Lemmas.Confl
import FFVerif.Lemmas.Reverse
namespace FF

theorem fpRound_step (l : List Int) (cy : Cyc) (l' : List Int) (hz : Zig l)
    (h : fpRound l = some (cy, l')) : Step l cy l' := by
  obtain ⟨P, a, b, c, d, Q, rfl, rfl, rfl, h1, h2⟩ := fpRound_shape l cy l' h
  exact (Step.here a b c d Q (Zig_suffix P hz).alt4 h2 h1).prepend P

theorem fpRound_none_normal {L : List Int} (h : fpRound L = none) : Normal L := by
  fun_induction fpRound L with
  | case1 a b c d rest hc => cases h
  | case2 a b c d rest hc cy l heq ih => cases h
  | case3 a b c d rest hc heq ih =>
    intro cy L' s
    cases s with
    | here _ _ _ _ _ _ h2 h3 => exact hc ⟨h3, h2⟩
    | there _ s => exact ih heq _ _ s
  | case4 l hl =>
    rcases l with _ | ⟨a, _ | ⟨b, _ | ⟨c, _ | ⟨d, rest⟩⟩⟩⟩
    iterate 4 exact normal_short (by simp)
    exact (hl a b c d rest rfl).elim

theorem fpGo_red (l : List Int) (out : List Cyc) (hz : Zig l) :
    ∃ cs, Red l cs (fpGo l out).1 ∧ (fpGo l out).2 = out ++ cs := by
  fun_induction fpGo l out with
  | case1 l out cy l' heq ih =>
    have s := fpRound_step l cy l' hz heq
    obtain ⟨cs, r, e⟩ := ih (s.zig hz)
    exact ⟨cy :: cs, Red.step s r, by rw [e]; simp⟩
  | case2 l out heq =>
    exact ⟨[], Red.done (fpRound_none_normal heq), by simp⟩

theorem Alt4.reverse {a b c d : Int} (h : Alt4 a b c d) : Alt4 d c b a :=
  h.symm.imp (fun g => ⟨g.2.2, g.2.1, g.1⟩) (fun g => ⟨g.2.2, g.2.1, g.1⟩)

theorem Step.reverse {L c L'} (s : Step L c L') : Step L.reverse c.swap L'.reverse := by
  induction s with
  | here a b c d S h1 h2 h3 =>
    simpa [Cyc.swap] using ((Nest.of h1 h2 h3).reverse.step []).prepend S.reverse
  | there x s ih => simpa using ih.append [x]

theorem Cyc.swap_swap (c : Cyc) : c.swap.swap = c := rfl

theorem Normal.reverse {L : List Int} (h : Normal L) : Normal L.reverse := by
  intro c L' s
  have := s.reverse
  rw [List.reverse_reverse] at this
  exact h _ _ this

theorem Red.reverse {L cs N} (r : Red L cs N) : Red L.reverse (cs.map Cyc.swap) N.reverse := by
  induction r with
  | done h => exact Red.done h.reverse
  | step s _ ih => exact Red.step s.reverse ih

theorem Red.reverse_confluent {L cs N cs' N'} (r : Red L cs N) (r' : Red L.reverse cs' N') :
    N' = N.reverse ∧ ∀ k, unitsAt cs' k = unitsAt cs k := by
  obtain ⟨e, u⟩ := r'.confluent r.reverse
  exact ⟨e, fun k => by rw [u k, unitsAt_map_swap]⟩

end FF
