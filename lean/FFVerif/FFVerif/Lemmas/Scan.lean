/- The one-sided scans of the Rychlik and Johannesson counters (`scanMin`, `scanMinLe` of the model,
`sideMin` of the specification) are one recursive function `sm`; the non-strict scan is `sm` one
level higher; started below the top, a scan returns a value of its side below the top
(`scanMin_spec`, `scanMinLe_spec`).  Core Lean only. -/
import FFVerif.Props.C06
namespace FF
open C06

/-- minimum of the maximal initial run of values `< M`, capped by `M` (recursive form of `sideMin`) -/
def sm (M : Int) : List Int → Int
  | [] => M
  | x :: L => if x < M then min x (sm M L) else M

/-- minimum of the maximal initial run of values `≤ M`, capped by `M` (recursive form of the
right-hand scan `scanMinLe`) -/
def smLe (M : Int) : List Int → Int
  | [] => M
  | x :: L => if x ≤ M then min x (smLe M L) else M

theorem min_absorb {a b : Int} (h : a ≤ b) (t : Int) : min a (min b t) = min a t := by
  rw [← Int.min_assoc, Int.min_eq_left h]

theorem sm_cons_lt (M x : Int) (L : List Int) (h : x < M) : sm M (x :: L) = min x (sm M L) := if_pos h
theorem sm_cons_ge (M x : Int) (L : List Int) (h : ¬ x < M) : sm M (x :: L) = M := if_neg h
theorem smLe_cons_le (M x : Int) (L : List Int) (h : x ≤ M) : smLe M (x :: L) = min x (smLe M L) := if_pos h
theorem smLe_cons_gt (M x : Int) (L : List Int) (h : ¬ x ≤ M) : smLe M (x :: L) = M := if_neg h

theorem sm_le (M : Int) : ∀ L : List Int, sm M L ≤ M := by
  intro L
  fun_induction sm M L with
  | case1 => exact Int.le_refl M
  | case2 x L h ih => omega
  | case3 x L h => exact Int.le_refl M

theorem sm_head_le (M a : Int) (L : List Int) (h : a < M) : sm M (a :: L) ≤ a := by
  rw [sm_cons_lt M a _ h]; omega
theorem smLe_head_le (M a : Int) (L : List Int) (h : a ≤ M) : smLe M (a :: L) ≤ a := by
  rw [smLe_cons_le M a _ h]; omega

theorem sm_lt_iff {M x : Int} {L : List Int} : sm M (x :: L) < M ↔ x < M :=
  ⟨fun h => Decidable.byContradiction fun g => by rw [sm_cons_ge M x L g] at h; exact Int.lt_irrefl M h,
    fun h => Int.lt_of_le_of_lt (sm_head_le M x L h) h⟩

theorem smLe_eq_sm (M : Int) (L : List Int) : smLe M L = min M (sm (M + 1) L) := by
  fun_induction smLe M L with
  | case1 => exact (Int.min_eq_left (show M ≤ M + 1 by omega)).symm
  | case2 x L h ih =>
    rw [sm_cons_lt (M + 1) x _ (by omega), ih, ← Int.min_assoc, Int.min_comm x M, Int.min_assoc]
  | case3 x L h =>
    rw [sm_cons_ge (M + 1) x _ (by omega)]
    exact (Int.min_eq_left (by omega)).symm

theorem smLe_le (M : Int) : ∀ L : List Int, smLe M L ≤ M := fun L => smLe_eq_sm M L ▸ Int.min_le_left ..

theorem sideMin_eq_sm (M : Int) (L : List Int) : sideMin M L = sm M L := by
  fun_induction sm M L with
  | case1 => rfl
  | case2 x L hx ih =>
    rw [← ih]
    simp only [sideMin, List.takeWhile_cons, hx, decide_true, if_true]
    cases hL : L.takeWhile (· < M) with
    | nil => simp only [List.foldl_nil]; omega
    | cons y r => simp only [List.foldl_cons]; exact List.foldl_assoc
  | case3 x L hx => simp [sideMin, hx]

theorem scanMin_eq_sm (M p : Int) (L : List Int) (hp : p < M) : scanMin M (p :: L) = sm M (p :: L) := by
  rw [← sideMin_eq_sm]
  cases L with
  | nil => simp only [scanMin, sideMin, List.takeWhile_cons, hp, decide_true, if_true,
      List.takeWhile_nil, List.foldl_nil]; omega
  | cons y L => simp only [scanMin, sideMin, List.takeWhile_cons, hp, decide_true, if_true]

/-- started below the peak, the non-strict scan of the model is its strict scan one level higher -/
theorem scanMinLe_succ (M n : Int) (r : List Int) (hn : n < M) :
    scanMinLe M (n :: r) = scanMin (M + 1) (n :: r) := by
  cases r with
  | nil => simp only [scanMinLe, scanMin]; omega
  | cons y r => simp only [scanMinLe, scanMin, Int.lt_add_one_iff]

theorem scanMinLe_eq_smLe (M n : Int) (r : List Int) (hn : n < M) :
    scanMinLe M (n :: r) = smLe M (n :: r) := by
  have := sm_head_le (M + 1) n r (by omega)
  rw [scanMinLe_succ M n r hn, scanMin_eq_sm _ n r (by omega), smLe_eq_sm]; omega

theorem sm_mem (M : Int) (L : List Int) : sm M L ∈ M :: L := by
  fun_induction sm M L with
  | case1 => exact List.mem_cons_self
  | case2 x L h ih =>
    rw [Int.min_def]; split
    · exact List.mem_cons_of_mem _ List.mem_cons_self
    · exact (List.mem_cons.mp ih).elim (fun e => by rw [e]; exact List.mem_cons_self)
        fun m => List.mem_cons_of_mem _ (List.mem_cons_of_mem _ m)
  | case3 x L h => exact List.mem_cons_self

/-- started below the top, a scan returns a value of its side, below the top -/
theorem scanMin_spec {M p : Int} (l : List Int) (h : p < M) :
    scanMin M (p :: l) ∈ p :: l ∧ scanMin M (p :: l) < M := by
  rw [scanMin_eq_sm M p l h]
  have lt : sm M (p :: l) < M := sm_lt_iff.mpr h
  exact ⟨(List.mem_cons.mp (sm_mem M (p :: l))).resolve_left (Int.ne_of_lt lt), lt⟩

theorem scanMinLe_spec {M p : Int} (l : List Int) (h : p < M) :
    scanMinLe M (p :: l) ∈ p :: l ∧ scanMinLe M (p :: l) < M := by
  have := sm_head_le (M + 1) p l (by omega)
  rw [scanMinLe_succ M p l h]
  exact ⟨(scanMin_spec l (by omega)).1, by rw [scanMin_eq_sm _ p l (by omega)]; omega⟩

/-- with a unique top the two scans stop at the same place: `≤` and `<` agree on lists without `M` -/
theorem scanMinLe_eq_scanMin (M : Int) (side : List Int) (hu : M ∉ side) : scanMinLe M side = scanMin M side := by
  match side with
  | [] => rfl
  | [x] => rfl
  | x :: y :: rest =>
    simp only [scanMinLe, scanMin]
    congr 1
    have hu' : M ∉ y :: rest := fun hm => hu (List.mem_cons_of_mem _ hm)
    generalize y :: rest = t at hu'
    induction t with
    | nil => rfl
    | cons z t ih =>
      have hz : z ≠ M := fun e => hu' (e ▸ List.mem_cons_self)
      have ht : M ∉ t := fun hm => hu' (List.mem_cons_of_mem _ hm)
      have e : decide (z ≤ M) = decide (z < M) := by simp only [decide_eq_decide]; omega
      simp only [List.takeWhile_cons, e, ih ht]

theorem smLe_eq_sm_of_not_mem (M : Int) (L : List Int) (h : M ∉ L) : smLe M L = sm M L := by
  induction L with
  | nil => rfl
  | cons x L ih =>
    have hx : x ≠ M := fun e => h (e ▸ List.mem_cons_self)
    have ih := ih (fun hm => h (List.mem_cons_of_mem _ hm))
    by_cases hlt : x < M
    · rw [smLe_cons_le M x _ (by omega), sm_cons_lt M x _ hlt, ih]
    · rw [smLe_cons_gt M x _ (by omega), sm_cons_ge M x _ hlt]

/-- two points that are not below the one after them are invisible to a scan that reaches it -/
theorem sm_skip2 {M x y z : Int} (L : List Int) (hx : x < M) (hy : y < M) (hzx : z ≤ x) (hzy : z ≤ y) :
    sm M (x :: y :: z :: L) = sm M (z :: L) := by
  have h := sm_head_le M z L (Int.lt_of_le_of_lt hzx hx)
  rw [sm_cons_lt M x _ hx, sm_cons_lt M y _ hy, Int.min_eq_right (Int.le_trans h hzy),
    Int.min_eq_right (Int.le_trans h hzx)]

/-- a lower bound of the cap and of the side is a lower bound of the scan -/
theorem le_sm {p M : Int} {l : List Int} (hM : p ≤ M) (h : ∀ v ∈ l, p ≤ v) : p ≤ sm M l :=
  (List.mem_cons.mp (sm_mem M l)).elim (fun e => e.symm ▸ hM) (h _)

/-- a scan that starts at a point below all later ones returns that point -/
theorem sm_eq_head {M p : Int} {l : List Int} (hp : p < M) (h : ∀ v ∈ l, p ≤ v) : sm M (p :: l) = p :=
  (sm_cons_lt M p l hp).trans (Int.min_eq_left (le_sm (Int.le_of_lt hp) h))
theorem smLe_eq_head {M p : Int} {l : List Int} (hp : p ≤ M) (h : ∀ v ∈ l, p ≤ v) : smLe M (p :: l) = p := by
  rw [smLe_eq_sm, sm_eq_head (Int.lt_add_one_iff.mpr hp) h, Int.min_eq_right hp]

theorem sm_cons_congr {M : Int} {X Y : List Int} (x : Int) (h : sm M X = sm M Y) :
    sm M (x :: X) = sm M (x :: Y) := by rw [sm, sm, h]

theorem sm_dup (x : Int) (L : List Int) (M : Int) : sm M (x :: x :: L) = sm M (x :: L) := by
  by_cases h : x < M
  · rw [sm_cons_lt M x _ h, sm_cons_lt M x _ h, min_absorb (Int.le_refl x)]
  · rw [sm_cons_ge M x _ h, sm_cons_ge M x _ h]

/-- a sample between its two neighbours is invisible to a scan -/
theorem sm_between {x y z : Int} (h : (z ≤ y ∧ y ≤ x) ∨ (x ≤ y ∧ y ≤ z)) (L : List Int) (M : Int) :
    sm M (x :: y :: z :: L) = sm M (x :: z :: L) := by
  by_cases hx : x < M
  · rw [sm_cons_lt M x _ hx, sm_cons_lt M x _ hx]
    by_cases hy : y < M
    · rw [sm_cons_lt M y _ hy]
      rcases h with h | h
      · rw [Int.min_eq_right (Int.le_trans (sm_head_le M z L (by omega)) h.1)]
      · rw [min_absorb h.1]
    · rw [sm_cons_ge M y _ hy, sm_cons_ge M z _ (by omega)]
  · rw [sm_cons_ge M x _ hx, sm_cons_ge M x _ hx]

/-- the non-strict scan from `a` is the strict scan one level higher that has passed `a` -/
theorem smLe_congr {a : Int} {X Y : List Int} (h : sm (a + 1) (a :: X) = sm (a + 1) (a :: Y)) :
    smLe a X = smLe a Y := by
  have ha : a < a + 1 := Int.lt_add_one_iff.mpr (Int.le_refl a)
  rw [sm_cons_lt _ a _ ha, sm_cons_lt _ a _ ha] at h
  rw [smLe_eq_sm, smLe_eq_sm, h]

end FF
