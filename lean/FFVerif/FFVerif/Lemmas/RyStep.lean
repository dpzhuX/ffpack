/- Rychlik's per-peak count is invariant under a four-point extraction, up to the range histogram:
extracting the inner pair `(b, c)` of `a, b, c, d` removes exactly one whole cycle of range
`rng b c` from the Rychlik count of the sequence.  Core Lean only. -/
import FFVerif.Lemmas.Confl
import FFVerif.Lemmas.Reverse
import FFVerif.Lemmas.Scan
namespace FF

/-- the Rychlik function of the model -/
def ryF : List Int → Int → List Int → Option Cyc :=
  fun l m r => some ⟨max (scanMin m l) (scanMinLe m r), m, false⟩

/-- a nested inner pair is invisible to a scan that starts outside it -/
theorem sm_nest {a b c d : Int} (h : Nest a b c d) (S : List Int) (M : Int) :
    sm M (a :: b :: c :: d :: S) = sm M (a :: d :: S) := by
  by_cases ha : a < M
  · rw [sm_cons_lt M a _ ha, sm_cons_lt M a _ ha]
    rcases h with h | h
    · -- `a ≤ c < b ≤ d`: the scan stops at `b` only if it stops at `d`; otherwise `a` is lower than both
      by_cases hb : b < M
      · rw [sm_cons_lt M b _ hb, sm_cons_lt M c _ (by omega), min_absorb (by omega), min_absorb h.1]
      · rw [sm_cons_ge M b _ hb, sm_cons_ge M d _ (by omega)]
    · -- `d ≤ b < c ≤ a`: nothing stops the scan before `d`, which is lower than both
      rw [sm_skip2 S (by omega) (by omega) h.1 (by omega)]
  · rw [sm_cons_ge M a _ ha, sm_cons_ge M a _ ha]

theorem unitsAt_swap (x y : Int) (k : Nat) :
    unitsAt [(⟨x, y, false⟩ : Cyc)] k = unitsAt [(⟨y, x, false⟩ : Cyc)] k :=
  unitsAt_map_swap [⟨y, x, false⟩] k

/-- what the Rychlik walk emits at the point `cur`, in terms of the recursive scans: each context
enters only through its scans -/
def ryEmit (left : List Int) (cur : Int) (right : List Int) : List Cyc :=
  if sm cur left < cur ∧ sm cur right < cur then [⟨max (sm cur left) (smLe cur right), cur, false⟩] else []

theorem ryEmit_congr {l1 l2 R1 R2 : List Int} (hl : ∀ M, sm M l1 = sm M l2) (hr : ∀ M, sm M R1 = sm M R2)
    (cur : Int) : ryEmit l1 cur R1 = ryEmit l2 cur R2 := by
  simp only [ryEmit, smLe_eq_sm, hl, hr]

theorem ryEmit_nil_left (cur : Int) (R : List Int) : ryEmit [] cur R = [] :=
  if_neg fun h => Int.lt_irrefl _ h.1
theorem ryEmit_nil_right (left : List Int) (cur : Int) : ryEmit left cur [] = [] :=
  if_neg fun h => Int.lt_irrefl _ h.2
theorem ryEmit_pos (p : Int) (l : List Int) (cur n : Int) (r : List Int) (h1 : cur > p) (h2 : cur > n) :
    ryEmit (p :: l) cur (n :: r) = [⟨max (sm cur (p :: l)) (smLe cur (n :: r)), cur, false⟩] :=
  if_pos ⟨sm_lt_iff.mpr h1, sm_lt_iff.mpr h2⟩
theorem ryEmit_left_ge (p : Int) (l : List Int) (cur : Int) (R : List Int) (h : ¬ cur > p) :
    ryEmit (p :: l) cur R = [] :=
  if_neg fun g => h (sm_lt_iff.mp g.1)
theorem ryEmit_right_ge (left : List Int) (cur n : Int) (r : List Int) (h : ¬ cur > n) :
    ryEmit left cur (n :: r) = [] :=
  if_neg fun g => h (sm_lt_iff.mp g.2)

/-- a peak whose left-hand scan returns its neighbour `p`, the right-hand neighbour not being higher,
closes against `p` -/
theorem ryEmit_left {p cur n : Int} (l r : List Int) (hp : p < cur) (hn : n ≤ p) (hl : sm cur (p :: l) = p) :
    ryEmit (p :: l) cur (n :: r) = [⟨p, cur, false⟩] := by
  have := smLe_head_le cur n r (by omega)
  rw [ryEmit_pos p l cur n r hp (by omega), hl, Int.max_eq_left (by omega)]
theorem ryEmit_right {p cur n : Int} (l r : List Int) (hn : n < cur) (hp : p ≤ n) (hr : smLe cur (n :: r) = n) :
    ryEmit (p :: l) cur (n :: r) = [⟨n, cur, false⟩] := by
  have := sm_head_le cur p l (by omega)
  rw [ryEmit_pos p l cur n r (by omega) hn, hr, Int.max_eq_right (by omega)]

theorem peaksGo_nil (left : List Int) : peaksGo ryF left [] = [] := by simp [peaksGo]

theorem peaksGo_cons (left : List Int) (cur : Int) (R : List Int) :
    peaksGo ryF left (cur :: R) = ryEmit left cur R ++ peaksGo ryF (cur :: left) R := by
  cases R with
  | nil => rw [ryEmit_nil_right, peaksGo_nil]; simp [peaksGo]
  | cons n r =>
    cases left with
    | nil => rw [ryEmit_nil_left]; simp [peaksGo]
    | cons p l =>
      rw [peaksGo]
      by_cases h : cur > p ∧ cur > n
      · rw [if_pos h, ryEmit_pos p l cur n r h.1 h.2]
        simp only [ryF, List.singleton_append]
        rw [scanMin_eq_sm cur p l h.1, scanMinLe_eq_smLe cur n r h.2]
      · rw [if_neg h, show ryEmit (p :: l) cur (n :: r) = [] from if_neg (by rwa [sm_lt_iff, sm_lt_iff])]
        rfl

theorem step_sm {L : List Int} {c : Cyc} {L' : List Int} (s : Step L c L') : ∀ M, sm M L = sm M L' := by
  induction s with
  | here a b c d S hA h1 h2 => exact sm_nest (Nest.of hA h1 h2) S
  | there x s ih => exact fun M => sm_cons_congr x (ih M)

theorem peaksGo_congr_left (R : List Int) (l1 l2 : List Int) (h : ∀ M, sm M l1 = sm M l2) :
    peaksGo ryF l1 R = peaksGo ryF l2 R := by
  induction R generalizing l1 l2 with
  | nil => rw [peaksGo_nil, peaksGo_nil]
  | cons cur R ih =>
    rw [peaksGo_cons, peaksGo_cons, ryEmit_congr h (fun _ => rfl),
      ih (cur :: l1) (cur :: l2) fun M => sm_cons_congr cur (h M)]

/-- the first point of the quadruple emits the same cycle before and after: seen from `a`, the
nested pair is invisible to the right-hand scan -/
theorem emit_a {a b c d : Int} (n : Nest a b c d) (left S : List Int) :
    ryEmit left a (b :: c :: d :: S) = ryEmit left a (d :: S) := by
  simp only [ryEmit, sm_lt_iff, smLe_congr (sm_nest n S (a + 1)), show b < a ↔ d < a by unfold Nest at n; omega]

/-- `a ≤ c < b < d`: the last point emits the same cycle before and after -/
theorem emit_d_up_lt {a b c d : Int} (n : a ≤ c ∧ c < b ∧ b ≤ d) (hbd : b < d) (left S : List Int) :
    ryEmit (c :: b :: a :: left) d S = ryEmit (a :: left) d S := by
  simp only [ryEmit, sm_skip2 left (by omega) hbd n.1 (by omega)]

theorem unitsAt_tie (l c r b : Int) (k : Nat) (h1 : l ≤ c) :
    unitsAt [(⟨max l (min c r), b, false⟩ : Cyc)] k + unitsAt [(⟨max c r, b, false⟩ : Cyc)] k =
      unitsAt [(⟨b, c, false⟩ : Cyc)] k + unitsAt [(⟨max l r, b, false⟩ : Cyc)] k := by
  rw [unitsAt_swap b c]
  by_cases h : r ≤ c
  · rw [Int.min_eq_right h, Int.max_eq_left h, Nat.add_comm]
  · have hr : c ≤ r := by omega
    rw [Int.min_eq_left hr, Int.max_eq_right h1, Int.max_eq_right hr, Int.max_eq_right (Int.le_trans h1 hr)]

/-- the tie `a ≤ c < b = d`: both equal peaks emit, the first against the lower of `c` and what follows
the second, the second against the higher of the two; after the extraction the one peak left emits
against what follows.  Which top is paired with `c` depends on the data, the ranges do not. -/
theorem emit_tie {a b c e : Int} (hac : a ≤ c) (hcb : c < b) (he : e < b) (left S : List Int) (k : Nat) :
    unitsAt (ryEmit (a :: left) b (c :: b :: e :: S)) k + unitsAt (ryEmit (c :: b :: a :: left) b (e :: S)) k
      = unitsAt [(⟨b, c, false⟩ : Cyc)] k + unitsAt (ryEmit (a :: left) b (e :: S)) k := by
  have hab : a < b := Int.lt_of_le_of_lt hac hcb
  have e1 : smLe b (c :: b :: e :: S) = min c (smLe b (e :: S)) := by
    rw [smLe_cons_le b c _ (Int.le_of_lt hcb), smLe_cons_le b b _ (Int.le_refl b), min_absorb (Int.le_of_lt hcb)]
  have e2 : sm b (c :: b :: a :: left) = c := by
    rw [sm_cons_lt b c _ hcb, sm_cons_ge b b _ (Int.lt_irrefl b)]; exact Int.min_eq_left (Int.le_of_lt hcb)
  rw [ryEmit_pos a _ b c _ hab hcb, ryEmit_pos c _ b e _ hcb he, ryEmit_pos a _ b e _ hab he, e1, e2]
  exact unitsAt_tie _ c _ b k (Int.le_trans (sm_head_le b a left hab) hac)

theorem ry_here {a b c d : Int} (n : Nest a b c d) (S left : List Int)
    (hz : Zig (a :: b :: c :: d :: S)) (k : Nat) :
    unitsAt (peaksGo ryF left (a :: b :: c :: d :: S)) k =
      unitsAt [(⟨b, c, false⟩ : Cyc)] k + unitsAt (peaksGo ryF left (a :: d :: S)) k := by
  have htail : peaksGo ryF (d :: c :: b :: a :: left) S = peaksGo ryF (d :: a :: left) S :=
    peaksGo_congr_left S _ _ (sm_nest n.reverse left)
  rw [peaksGo_cons left a, peaksGo_cons _ b, peaksGo_cons _ c, peaksGo_cons _ d,
    peaksGo_cons left a, peaksGo_cons _ d, htail, emit_a n left S]
  simp only [unitsAt_append]
  generalize unitsAt (peaksGo ryF (d :: a :: left) S) k = T
  generalize unitsAt (ryEmit left a (d :: S)) k = Ea
  rcases n with n | n
  · -- up case `a ≤ c < b ≤ d`
    rw [ryEmit_left_ge b _ c _ (by omega)]
    by_cases hbd : b < d
    · rw [emit_d_up_lt n hbd, ryEmit_right left _ n.2.1 n.1 (by
        rw [smLe_cons_le b c _ (by omega), smLe_cons_gt b d _ (by omega)]; omega), unitsAt_swap c b]
      simp only [unitsAt_nil]; omega
    · obtain rfl : b = d := by omega
      cases S with
      | nil =>
        rw [ryEmit_nil_right, ryEmit_nil_right, unitsAt_swap b c, ryEmit_right left _ n.2.1 n.1
          (smLe_eq_head (Int.le_of_lt n.2.1) (by simpa using Int.le_of_lt n.2.1))]
        simp only [unitsAt_nil]; omega
      | cons e S' =>
        have := emit_tie n.1 n.2.1 (show e < b by have := Zig_turn [a, b] c b e S' hz; omega) left S' k
        simp only [unitsAt_nil]; omega
  · -- down case `d ≤ b < c ≤ a`
    rw [ryEmit_left_ge a _ b _ (by omega), ryEmit_left_ge c _ d _ (by omega), ryEmit_left_ge a _ d _ (by omega),
      ryEmit_left _ S n.2.1 n.1 (by rw [sm_cons_lt c b _ n.2.1, sm_cons_ge c a _ (by omega)]; omega)]
    simp only [unitsAt_nil]; omega

/-- one four-point extraction removes exactly the extracted cycle from the Rychlik histogram -/
theorem ry_step {L : List Int} {c : Cyc} {L' : List Int} (s : Step L c L') :
    ∀ left : List Int, Zig L → ∀ k,
      unitsAt (peaksGo ryF left L) k = unitsAt [c] k + unitsAt (peaksGo ryF left L') k := by
  induction s with
  | here a b c d S hA h1 h2 =>
    intro left hz k
    exact ry_here (Nest.of hA h1 h2) S left hz k
  | there x s ih =>
    intro left hz k
    rw [peaksGo_cons, peaksGo_cons, unitsAt_append, unitsAt_append,
      ryEmit_congr (fun _ => rfl) (step_sm s) x, ih (x :: left) (Zig_tail hz) k]
    omega

/-- along a maximal extraction sequence: the Rychlik histogram of a strictly alternating sequence
is the histogram of the extracted cycles plus the Rychlik histogram of the residue -/
theorem ry_red {L : List Int} {cs : List Cyc} {N : List Int} (r : Red L cs N) (hz : Zig L) :
    ∀ k, unitsAt (peaksGo ryF [] L) k = unitsAt cs k + unitsAt (peaksGo ryF [] N) k := by
  induction r with
  | done hn => intro k; rw [unitsAt_nil]; omega
  | @step L c L' cs N s r ih =>
    intro k
    rw [ry_step s [] hz k, ih (s.zig hz) k, unitsAt_cons' c cs]
    omega

end FF
