/- Four-point counting versus the rainflow loop when no two ranges tie: the four-point rule extracts exactly the
whole cycles of the three-point loop (`rf_wholes`).  Core Lean only. -/
import FFVerif.Lemmas.RfRpClosed
namespace FF
open C04

/-- the four-point test on `a b c d` -/
def Q4 (a b c d : Int) : Prop := rng c d ≥ rng b c ∧ rng a b ≥ rng b c

instance (a b c d : Int) : Decidable (Q4 a b c d) := by unfold Q4; exact inferInstance

def NoQ : List Int → Prop
  | a :: b :: c :: d :: rest => ¬ Q4 a b c d ∧ NoQ (b :: c :: d :: rest)
  | _ => True

theorem fpRound_none_of_NoQ : ∀ l : List Int, NoQ l → fpRound l = none := by
  intro l
  fun_induction NoQ l with
  | case1 a b c d rest ih =>
    intro h
    rw [fpRound, if_neg (show ¬ (rng c d ≥ rng b c ∧ rng a b ≥ rng b c) from h.1), ih h.2]
  | case2 l hl => intro _; rw [fpRound]; exact hl

theorem NoQ_tail {x : Int} {l : List Int} (h : NoQ (x :: l)) : NoQ l := by
  rcases l with _ | ⟨b, _ | ⟨c, _ | ⟨d, rest⟩⟩⟩
  iterate 3 trivial
  exact h.2

theorem NoQ_first {x : Int} {P : List Int} {a b c : Int} (hn : NoQ (x :: P ++ [a, b, c])) (T : List Int) :
    ∃ y z w t, P ++ a :: b :: c :: T = y :: z :: w :: t ∧ ¬ (rng z w ≥ rng y z ∧ rng x y ≥ rng y z) := by
  match P, hn with
  | [], hn => exact ⟨a, b, c, T, rfl, hn.1⟩
  | [y], hn => exact ⟨y, a, b, c :: T, rfl, hn.1⟩
  | [y, z], hn => exact ⟨y, z, a, b :: c :: T, rfl, hn.1⟩
  | y :: z :: w :: P', hn => exact ⟨y, z, w, P' ++ a :: b :: c :: T, rfl, hn.1⟩

theorem fpRound_at (P : List Int) : ∀ (a b c d : Int) (rest : List Int), NoQ (P ++ [a, b, c]) →
    Q4 a b c d →
    fpRound (P ++ a :: b :: c :: d :: rest) = some (⟨b, c, false⟩, P ++ a :: d :: rest) := by
  induction P with
  | nil => intro a b c d rest _ hq; exact if_pos hq
  | cons x P ih =>
    intro a b c d rest hn hq
    have ih' := ih a b c d rest (NoQ_tail hn) hq
    obtain ⟨y, z, w, t, e, h1⟩ := NoQ_first hn (d :: rest)
    rw [List.cons_append, List.cons_append, e, fpRound, if_neg h1, ← e, ih']

theorem fpTieRound_at (P : List Int) : ∀ (a b c d : Int) (rest : List Int), NoQ (P ++ [a, b, c]) →
    fpTieRound (P ++ a :: b :: c :: d :: rest) = false → rng c d ≠ rng b c ∧ rng a b ≠ rng b c := by
  induction P with
  | nil =>
    intro a b c d rest _ ht
    rw [List.nil_append, fpTieRound] at ht
    simp only [Bool.or_eq_false_iff, beq_eq_false_iff_ne, ne_eq] at ht
    exact ht.1
  | cons x P ih =>
    intro a b c d rest hn ht
    refine ih a b c d rest (NoQ_tail hn) ?_
    obtain ⟨y, z, w, t, e, h1⟩ := NoQ_first hn (d :: rest)
    rw [List.cons_append, e, fpTieRound, if_neg h1] at ht
    rw [e]
    simp only [Bool.or_eq_false_iff] at ht
    exact ht.2

theorem fpTie_false (l : List Int) (h : fpTie l = false) :
    fpTieRound l = false ∧ ∀ cy l', fpRound l = some (cy, l') → fpTie l' = false := by
  rw [fpTie] at h
  simp only [Bool.or_eq_false_iff] at h
  refine ⟨h.1, ?_⟩
  intro cy l' hr
  have h2 := h.2
  split at h2
  · rename_i cy2 l2 heq
    rw [hr] at heq; cases heq; exact h2
  · rename_i heq; rw [hr] at heq; cases heq

def IncS : List Int → Prop
  | a :: b :: c :: rest => rng a b < rng b c ∧ IncS (b :: c :: rest)
  | _ => True

theorem IncS_noQ : ∀ l : List Int, IncS l → NoQ l := by
  intro l
  fun_induction NoQ l with
  | case1 a b c d rest ih =>
    intro h
    exact ⟨by have := h.1; unfold Q4; omega, ih h.2⟩
  | case2 l hl => intro _; trivial

theorem halves_split : ∀ (C V : List Int) (k : Nat),
    unitsAt (halves (C ++ V)) k = unitsAt (halves (C ++ V.take 1)) k + unitsAt (halves V) k := by
  intro C V k
  rw [halves_append_take, unitsAt_append]

theorem take1_append (A X : List Int) (h : A ≠ []) : (A ++ X).take 1 = A.take 1 := by
  cases A with
  | nil => exact absurd rfl h
  | cons a A => simp

theorem tie_eq {d a b : Int} (hz : Zig [d, a, b]) (h : rng d a = rng a b) : d = b := by
  have := Zig_turn [] d a b [] hz
  unfold rng at h; omega

theorem rfTie_fire (A : List Int) (a b c : Int) (rest : List Int) (flag : Bool)
    (h : rfTie A (a :: b :: c :: rest) flag = false) (hge : rng b c ≥ rng a b) :
    rng a b < rng b c ∧
      (if flag then rfTie [] (b :: c :: rest) true else rfTie [] (A ++ c :: rest) true) = false := by
  rw [rfTie] at h
  by_cases he : rng b c = rng a b
  · simp [he] at h
  · have hgt : rng b c > rng a b := by omega
    simp only [he, if_false, hgt, if_true] at h
    exact ⟨by omega, h⟩

theorem rfTie_stay (A : List Int) (a b c : Int) (rest : List Int) (flag : Bool)
    (h : rfTie A (a :: b :: c :: rest) flag = false) (hlt : ¬ rng b c ≥ rng a b) :
    rfTie (A ++ [a]) (b :: c :: rest) false = false := by
  rw [rfTie] at h
  have he : ¬ rng b c = rng a b := by omega
  have hgt : ¬ rng b c > rng a b := by omega
  simpa [he, hgt] using h

/-- without ties, the whole cycles of the rainflow loop, in the order in which it counts them, are a
maximal extraction sequence on what the loop still holds: a half cycle drops a starting point whose range
is strictly smaller than the next, which no later extraction touches (`Red.cons_of_lt`) -/
theorem rf_wholes (A B : List Int) (flag : Bool) (out : List Cyc) :
    Zig (A ++ B) → Dec (A ++ B.take 2) → flag = A.isEmpty → rfTie A B flag = false →
    ∃ cs N, Red (A ++ B) cs N ∧ wholes (implGo A B flag out) = wholes out ++ cs := by
  fun_induction implGo A B flag out with
  | case1 A out a b c rest hge ih =>
    intro hz hd hf ht
    obtain rfl : A = [] := by simpa using hf.symm
    obtain ⟨hlt, ht'⟩ := rfTie_fire [] a b c rest true ht hge
    obtain ⟨cs, N, r, e⟩ := ih (Zig_tail hz) (Dec_short _ (by simp)) rfl ht'
    exact ⟨cs, a :: N, r.cons_of_lt hlt, by rw [e, wholes_append, wholes_half, List.append_nil]⟩
  | case2 A flag out a b c rest hge hfl ih =>
    intro hz hd hf ht
    obtain rfl : flag = false := by simpa using hfl
    obtain ⟨hlt, ht'⟩ := rfTie_fire A a b c rest false ht hge
    rcases List.eq_nil_or_concat A with e | ⟨A0, r0, e⟩
    · subst e; simp at hf
    · obtain rfl : A = A0 ++ [r0] := by simpa using e
      have s := (RfStep.whole A0 r0 a b c rest hge (Dec_head3 A0 r0 a b [] (by rwa [List.append_assoc] at hd))).step
        (by rwa [List.append_assoc] at hz) rfl
      rw [List.append_cons A0 r0 (a :: _), List.append_cons A0 r0 (c :: _)] at s
      obtain ⟨cs, N, r, e⟩ := ih (s.zig hz) (Dec_short _ (List.length_take_le 2 _)) rfl ht'
      exact ⟨_ :: cs, N, Red.step s r, by rw [e, wholes_append, wholes_whole, List.append_assoc]; rfl⟩
  | case3 A flag out a b c rest hlt ih =>
    intro hz hd hf ht
    rw [List.append_cons] at hz ⊢
    exact ih hz (List.append_cons A a [b, c] ▸ Dec_snoc A a b c hd (by omega)) (by simp)
      (rfTie_stay A a b c rest flag ht hlt)
  | case4 A B flag out hB =>
    intro hz hd hf _
    rw [List.take_of_length_le (length_le_two hB)] at hd
    exact ⟨[], _, Red.done (Dec_normal hd), by rw [wholes_append, wholes_halves]⟩

end FF
