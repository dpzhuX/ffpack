/- Collapsing the from-to matrix by |key_j - key_i| reproduces the aggregated table.  Core Lean only. -/
import FFVerif.Lemmas.Matrix
import FFVerif.Lemmas.Table
namespace FF
open C07

theorem collapse_eq (M : List (List Nat)) (keys : List Int) : collapse M keys =
    accAll (((M.zip keys).flatMap fun ra => (ra.1.zip keys).map fun vb => (rng ra.2 vb.2, vb.1)).filter
      fun p => p.2 != 0) [] := by
  rw [accAll, List.foldl_filter]
  simp only [collapse, tblAdd_eq, bne_iff_ne, ne_eq, ite_not]

theorem cnt_entries {α : Type} [DecidableEq α] (keys : List Int) (f : Int → Int → α) (g : Int → Int → Nat) (k : α) :
    cnt (keys.flatMap (fun a => keys.map (fun b => (f a b, g a b)))) k =
      maskSum keys (fun a b => f a b == k) g := by
  have inner : ∀ (a : Int) (L : List Int), cnt (L.map (fun b => (f a b, g a b))) k =
      (L.map (fun b => if (f a b == k) = true then g a b else 0)).sum := by
    intro a L
    induction L with
    | nil => rfl
    | cons b L ih => rw [List.map_cons, cnt_cons, ih, List.map_cons, List.sum_cons]; simp only [beq_iff_eq]
  have outer : ∀ A : List Int, cnt (A.flatMap (fun a => keys.map (fun b => (f a b, g a b)))) k =
      (A.map (fun a => (keys.map (fun b => if (f a b == k) = true then g a b else 0)).sum)).sum := by
    intro A
    induction A with
    | nil => rfl
    | cons a A ih => rw [List.flatMap_cons, cnt_append, inner, ih, List.map_cons, List.sum_cons]
  exact outer keys

theorem collapse_spec (cs : List Cyc) (keys : List Int) (hn : keys.Nodup)
    (hk : ∀ c ∈ cs, c.a ∈ keys ∧ c.b ∈ keys) : collapse (specMatrix cs keys) keys = table cs := by
  have rows : ((specMatrix cs keys).zip keys).flatMap (fun ra => (ra.1.zip keys).map fun vb => (rng ra.2 vb.2, vb.1)) =
      keys.flatMap fun a => keys.map fun b => (rng a b, fromTo cs a b) := by
    rw [specMatrix, ← List.map_prod_right_eq_zip, List.flatMap_map]
    congr 1
    funext a
    rw [← List.map_prod_right_eq_zip, List.map_map]; rfl
  rw [collapse_eq, table_eq, rows]
  refine accAll_congr (fun p hp => Nat.pos_of_ne_zero (by simpa using (List.mem_filter.mp hp).2))
    (List.forall_mem_map.mpr fun c _ => c.units_pos) fun k => ?_
  rw [cnt_filter_ne_zero, cnt_entries, maskSum_fromTo keys hn _ cs hk, ← unitsAt_eq_cnt]; rfl

def msum (M : List (List Nat)) : Nat := (M.map List.sum).sum

theorem msum_spec (cs : List Cyc) (keys : List Int) (hn : keys.Nodup)
    (hk : ∀ c ∈ cs, c.a ∈ keys ∧ c.b ∈ keys) : msum (specMatrix cs keys) = totalUnits cs := by
  have := maskSum_fromTo keys hn (fun _ _ => true) cs hk
  rw [List.filter_eq_self.mpr fun _ _ => rfl] at this
  simpa [msum, maskSum, specMatrix, totalUnits, Function.comp_def] using this

end FF
