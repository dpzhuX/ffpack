/- Rainflow versus the forward pass of range-pair counting.  Put a point `z` in front of the reversal sequence that
bounds it from one side: every extraction of the forward pass is then a four-point extraction (`rpForward_red`),
and the rest is confluence.  On any alternating sequence the forward pass counts at least the whole cycles of
rainflow (`wholes_le_forward`); on one that starts and ends at a global extreme `M` the same ranges are counted
(`closed_units`).  Core Lean only. -/
import FFVerif.Lemmas.ClosedNormal
namespace FF
open C04

theorem wholes_append (a b : List Cyc) : wholes (a ++ b) = wholes a ++ wholes b := by
  simp [wholes]

theorem wholes_whole (a b : Int) : wholes [⟨a, b, false⟩] = [⟨a, b, false⟩] := rfl
theorem wholes_half (a b : Int) : wholes [⟨a, b, true⟩] = [] := rfl
theorem wholes_halves (l : List Int) : wholes (halves l) = [] :=
  List.filter_eq_nil_iff.mpr fun c hc => by simp [halves_half l c hc]

/-- stack newest first, `Q` the points still to come, `z` a point in front that bounds the sequence from one
side.  Every extraction of `rpReduce` is a four-point extraction of `z :: (st.reverse ++ Q)`: the left
neighbour of the extracted pair is the next older point of the stack, whose range is larger (`Dec`), or,
at the bottom of the stack, `z` -/
theorem rpReduce_steps (z : Int) (st : List Int) (out : List Cyc) (Q : List Int) {up : Bool}
    (hz : Zig (z :: (st.reverse ++ Q))) (hd : Dec st.tail.reverse) (hb : ∀ v ∈ z :: (st.reverse ++ Q), bd up z v) :
    ∃ cs, Steps (z :: (st.reverse ++ Q)) cs (z :: ((rpReduce st out).1.reverse ++ Q)) ∧
      (rpReduce st out).2 = out ++ cs := by
  fun_induction rpReduce st out with
  | case1 c b a rest out hle ih =>
    have s : Step (z :: ((c :: b :: a :: rest).reverse ++ Q)) ⟨a, b, false⟩
        (z :: ((c :: rest).reverse ++ Q)) := by
      cases rest with
      | nil => exact Step.here z a b c Q hz.alt4 (hz.alt3.rng_le (hb a (by simp)) (hb b (by simp))) hle
      | cons r rest =>
        simp only [List.reverse_cons, List.append_assoc, List.cons_append, List.nil_append] at hz ⊢
        exact (RfStep.whole (z :: rest.reverse) r a b c Q hle (Dec_reverse_cons.mp hd).1).step hz rfl
    obtain ⟨cs, t, e⟩ := ih (s.zig hz) (Dec_reverse_tail (Dec_reverse_tail hd)) fun v hv => hb v (s.mem v hv)
    exact ⟨_ :: cs, .cons s t, by rw [e]; simp⟩
  | case2 c b a rest out hgt => exact ⟨[], .nil _, by simp⟩
  | case3 st out hne => exact ⟨[], .nil _, by simp⟩

/-- seen from a point `z` in front of the sequence that bounds it from one side, the forward pass is a
maximal sequence of four-point extractions -/
theorem rpForward_red (z : Int) (ps st : List Int) (out : List Cyc) {up : Bool}
    (hz : Zig (z :: (st.reverse ++ ps))) (hd : Dec st.reverse) (hb : ∀ v ∈ z :: (st.reverse ++ ps), bd up z v) :
    ∃ cs, Red (z :: (st.reverse ++ ps)) cs (z :: (rpForward st ps out).1.reverse) ∧
      (rpForward st ps out).2 = out ++ cs := by
  induction ps generalizing st out with
  | nil =>
    exact ⟨[], by simpa [rpForward] using Red.done (Dec_normal_cons hd z), by simp [rpForward]⟩
  | cons p ps ih =>
    have e0 : st.reverse ++ p :: ps = (p :: st).reverse ++ ps := by simp
    rw [e0] at hz hb ⊢
    obtain ⟨cs, s, e⟩ := rpReduce_steps z (p :: st) out ps hz hd hb
    obtain ⟨ds, r, e'⟩ := ih _ (rpReduce (p :: st) out).2 (s.zig hz) (rpReduce_dec (p :: st) out hd)
      fun v hv => hb v (s.mem v hv)
    exact ⟨cs ++ ds, s.red r, by simp only [rpForward]; rw [e', e, List.append_assoc]⟩

/-- a point `z` beyond all points of `L` on one side (`up`: below them), hence on the inner side of `M ∈ L` -/
theorem exists_beyond (up : Bool) (M : Int) (L : List Int) (hM : M ∈ L) :
    ∃ z, z ≠ M ∧ bd up M z ∧ ∀ v ∈ z :: L, bd (!up) z v := by
  cases up
  · have hlt : ∀ v ∈ L, v < listMax L + 1 := fun v hv => Int.lt_add_one_of_le (le_listMax hv)
    exact ⟨_, Int.ne_of_gt (hlt M hM), Int.le_of_lt (hlt M hM),
      List.forall_mem_cons.mpr ⟨Int.le_refl _, fun v hv => Int.le_of_lt (hlt v hv)⟩⟩
  · have hlt : ∀ v ∈ L, listMin L - 1 < v := fun v hv => Int.sub_one_lt_of_le (listMin_le hv)
    exact ⟨_, Int.ne_of_lt (hlt M hM), Int.le_of_lt (hlt M hM),
      List.forall_mem_cons.mpr ⟨Int.le_refl _, fun v hv => Int.le_of_lt (hlt v hv)⟩⟩

/-- a point in front of an alternating sequence that bounds it from one side and keeps it alternating -/
theorem exists_front {L : List Int} (hz : Zig L) (hne : L ≠ []) :
    ∃ up z, Zig (z :: L) ∧ ∀ v ∈ z :: L, bd up z v := by
  obtain ⟨a, t, rfl⟩ := List.exists_cons_of_ne_nil hne
  rcases hz with h | h
  · obtain ⟨z, hza, h1, hb⟩ := exists_beyond false a (a :: t) List.mem_cons_self
    exact ⟨true, z, Or.inr ⟨Int.lt_iff_le_and_ne.mpr ⟨h1, hza.symm⟩, h⟩, hb⟩
  · obtain ⟨z, hza, h1, hb⟩ := exists_beyond true a (a :: t) List.mem_cons_self
    exact ⟨false, z, Or.inl ⟨Int.lt_iff_le_and_ne.mpr ⟨h1, hza⟩, h⟩, hb⟩

/-- the whole cycles of a run of the three-point procedure, in order, are extractions on the same sequence:
a half cycle only gives up a starting point, which stays in front of what follows -/
theorem RfRun.wholes_steps {L cs N} (r : RfRun L cs N) (hz : Zig L) : ∃ P, Steps L (wholes cs) (P ++ N) := by
  induction r with
  | nil L => exact ⟨[], .nil _⟩
  | cons s _ ih =>
    cases s with
    | whole P r a b c Q h1 h2 =>
      have st := (RfStep.whole P r a b c Q h1 h2).step hz rfl
      obtain ⟨P', t⟩ := ih (st.zig hz)
      exact ⟨P', .cons st t⟩
    | half a b c Q h =>
      obtain ⟨P', t⟩ := ih (Zig_tail hz)
      exact ⟨a :: P', t.prepend [a]⟩

/-- the forward pass counts at least the whole cycles of the three-point procedure: seen from a point in
front both are extraction sequences, the forward pass a maximal one -/
theorem wholes_le_forward (L : List Int) (hz : Zig L) (hne : L ≠ []) (k : Nat) :
    unitsAt (wholes (astm L)) k ≤ unitsAt (rpForward [] L []).2 k := by
  obtain ⟨cs, N, run, -, e⟩ := astm_run L
  obtain ⟨P, st⟩ := run.wholes_steps hz
  obtain ⟨up, z, hzz, hb⟩ := exists_front hz hne
  obtain ⟨cs', r, e'⟩ := rpForward_red z L [] [] hzz trivial hb
  obtain ⟨ds, N2, r2⟩ := Red.exists (z :: (P ++ N))
  have hu := (r.confluent ((st.prepend [z]).red r2)).2 k
  rw [e, wholes_append, wholes_halves, List.append_nil, e', List.nil_append, hu, unitsAt_append]
  exact Nat.le_add_right _ _

/-- on a reversal sequence that starts and ends at the extreme `M` the forward pass of range-pair counting
ends with the single point `M` and has counted, range by range, what the three-point procedure counts -/
theorem closed_units (up : Bool) (M : Int) (R' : List Int) (hz : Zig (M :: R'))
    (hb : ∀ x ∈ R', bd up M x) (hlast : (M :: R').getLast? = some M) :
    (rpForward [] (M :: R') []).1 = [M] ∧
    ∀ k, unitsAt (astm (M :: R')) k = unitsAt (rpForward [] (M :: R') []).2 k := by
  cases R' with
  | nil =>
    simp only [rpForward, rpReduce_short [M] [] (by simp), astm, astmGo_cons, reduce_one]
    exact ⟨trivial, fun k => by rw [astmGo]; rfl⟩
  | cons y R =>
    obtain ⟨z, hne, hz1, hzb⟩ := exists_beyond up M (M :: y :: R) List.mem_cons_self
    have hbz : ∀ v ∈ z :: M :: y :: R, bd up M v :=
      List.forall_mem_cons.mpr ⟨hz1, List.forall_mem_cons.mpr ⟨bd_self up M, hb⟩⟩
    have hzz : Zig (z :: M :: y :: R) :=
      Zig_glue_ext up [z] (y :: R) M
        ((Int.lt_or_gt_of_ne hne).imp (fun h => ⟨h, trivial⟩) (fun h => ⟨h, trivial⟩)) hz
        (List.forall_mem_cons.mpr ⟨hz1, hb⟩)
    -- the forward pass leaves a residue of `z :: M :: R'` that runs from one bound to the other: `[z, M]`
    obtain ⟨cs, r, e⟩ := rpForward_red z (M :: y :: R) [] [] hzz trivial hzb
    have eN := r.bound_bound hzz (by simp) rfl (by simpa [List.getLast?_cons_cons] using hlast) hzb hbz
    refine ⟨by simpa using eN, fun k => ?_⟩
    -- another way to `[z, M]`: extract inside `M :: R'` down to `[M, x, M]`, then the pair `M, x`; the
    -- whole cycle `M–x` stands for the two half cycles of that residue
    obtain ⟨cs', N', r'⟩ := Red.exists (M :: y :: R)
    obtain ⟨x, hx, rfl⟩ := r'.closed_bound hz (by simp) rfl hlast fun v hv => hbz v (List.mem_cons_of_mem z hv)
    have hxL := List.mem_cons_of_mem z (r'.steps.mem x (by simp))
    rw [eN] at r
    have hx' : Nest z M x M := (bd_between (hzb x hxL) (hbz x hxL)).imp
      (fun h => ⟨h.1, Int.lt_iff_le_and_ne.mpr ⟨h.2, hx⟩, Int.le_refl _⟩)
      (fun h => ⟨Int.le_refl _, Int.lt_iff_le_and_ne.mpr ⟨h.1, hx.symm⟩, h.2⟩)
    have hu := (r.confluent ((r'.steps.prepend [z]).red (Red.step (hx'.step []) (Red.done r.normal)))).2 k
    rw [unitsAt_append, unitsAt_single] at hu
    rw [List.nil_append] at e
    rw [e, hu, astm_red hz r', unitsAt_halves3]
    rfl

/-- either both stacks coincide and end (oldest point) at `M` with identical range counts, or the
rainflow stack has one more (oldest) point `z` below `M` and range-pair is one half-unit ahead at
the range `z–M` (the invariant of a lock-step run of the two stack machines; the theorems of this file go by the
confluence and do not use it) -/
def CInv (M : Int) (st st' : List Int) (o o' : List Cyc) : Prop :=
  (st' = st ∧ st.getLast? = some M ∧ ∀ k, unitsAt o' k = unitsAt o k) ∨
  (∃ T z, st' = T ++ [M] ∧ st = T ++ [M, z] ∧
    ∀ k, unitsAt o' k = unitsAt o k + if rng z M = k then 1 else 0)

theorem CInv_sub {M : Int} {st st' : List Int} {o o' : List Cyc} (h : CInv M st st' o o') :
    (∀ x ∈ st', x ∈ st) ∧ st ≠ [] := by
  rcases h with ⟨rfl, hl, _⟩ | ⟨T, z, rfl, rfl, _⟩
  · refine ⟨fun x hx => hx, ?_⟩
    intro e; rw [e] at hl; simp at hl
  · exact ⟨((List.sublist_append_left [M] [z]).append_left T).subset, by simp⟩

end FF
