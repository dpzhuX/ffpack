/- Strictly alternating sequences (`Zig`, `ZigD`; `rel`, the direction of a step; `bd`, a one-sided bound); cutting an
adjacent pair out of one and gluing two at a bound; the filter's output is a sub-list, alternates, and an alternating
sequence passes the filter unchanged; `listMax` / `listMin`.  Core Lean only. -/
import FFVerif.Lemmas.PeakValley
namespace FF

def rel (up : Bool) (a b : Int) : Prop := if up then a < b else a > b

/-- strictly alternating, first step in direction `up` -/
def ZigD : Bool → List Int → Prop
  | up, a :: b :: rest => rel up a b ∧ ZigD (!up) (b :: rest)
  | _, _ => True

def Zig (l : List Int) : Prop := ZigD true l ∨ ZigD false l

theorem rel_true {a b : Int} : rel true a b ↔ a < b := Iff.rfl
theorem rel_false {a b : Int} : rel false a b ↔ b < a := Iff.rfl

theorem rng_comm (a b : Int) : rng a b = rng b a := by unfold rng; rw [← Int.natAbs_neg, Int.neg_sub]

theorem rel_ne {up a b} (h : rel up a b) : a ≠ b := by
  cases up <;> simp only [rel_true, rel_false] at h <;> omega

theorem rel_turn {up : Bool} {a b c : Int} (h : rel up a b) :
    ((a < b ∧ b > c) ∨ (a > b ∧ b < c)) ↔ rel (!up) b c := by
  cases up <;> simp only [rel_true, rel_false, Bool.not_true, Bool.not_false] at h ⊢ <;> omega

theorem ZigD.zig {up l} (h : ZigD up l) : Zig l := by
  cases up
  · exact Or.inr h
  · exact Or.inl h

theorem Zig.dir {l} (h : Zig l) : ∃ up, ZigD up l :=
  h.elim (fun h => ⟨true, h⟩) fun h => ⟨false, h⟩

theorem Zig_tail {a l} (h : Zig (a :: l)) : Zig l := by
  cases l with
  | nil => exact Or.inl trivial
  | cons b l => exact h.symm.imp (·.2) (·.2)

theorem Zig_suffix (P : List Int) {S : List Int} (h : Zig (P ++ S)) : Zig S := by
  induction P with
  | nil => exact h
  | cons x P ih => exact ih (Zig_tail h)

theorem ZigD_prefix {up} (P S : List Int) (h : ZigD up (P ++ S)) : ZigD up P := by
  induction P generalizing up with
  | nil => trivial
  | cons x P ih =>
    cases P with
    | nil => trivial
    | cons y P => exact ⟨h.1, ih h.2⟩

theorem Zig_prefix (P S : List Int) (h : Zig (P ++ S)) : Zig P :=
  let ⟨_, h⟩ := h.dir; (ZigD_prefix P S h).zig

theorem ZigD_splice {up} (P : List Int) (c : Int) (T T' : List Int)
    (h : ZigD up (P ++ c :: T)) (hT : ∀ u, ZigD u (c :: T) → ZigD u (c :: T')) :
    ZigD up (P ++ c :: T') := by
  induction P generalizing up with
  | nil => exact hT _ h
  | cons x P ih =>
    cases P with
    | nil => exact ⟨h.1, hT _ h.2⟩
    | cons y P => exact ⟨h.1, ih h.2⟩

/-- a change after `c` that keeps the direction in which the sequence leaves `c` may be made inside a longer one -/
theorem Zig_splice (P : List Int) (c : Int) (T T' : List Int) (h : Zig (P ++ c :: T))
    (hT : ∀ u, ZigD u (c :: T) → ZigD u (c :: T')) : Zig (P ++ c :: T') :=
  let ⟨_, h⟩ := h.dir; (ZigD_splice P c T T' h hT).zig

theorem rel_swap {up : Bool} {a b : Int} : rel up a b ↔ rel (!up) b a := by
  cases up <;> exact Iff.rfl

theorem rel_nest {up : Bool} {r a b c : Int} (h1 : rel up r a) (h2 : rel (!up) a b) (h3 : rel up b c)
    (hr : rng a b ≤ rng b c) : rel up r c := by
  unfold rng at hr
  cases up <;> simp only [rel_true, rel_false, Bool.not_true, Bool.not_false] at h1 h2 h3 ⊢ <;> omega

theorem Zig_remove_after (P : List Int) (a b c : Int) (S : List Int)
    (h : Zig (P ++ a :: b :: c :: S)) (hr : rng a b ≤ rng b c) : Zig (P ++ c :: S) := by
  rcases List.eq_nil_or_concat P with rfl | ⟨P', r, rfl⟩
  · exact Zig_suffix [a, b] h
  · have e : ∀ X, P'.concat r ++ X = P' ++ r :: X := by simp
    rw [e] at h ⊢
    refine Zig_splice P' r _ _ h fun u ⟨h1, h2, h3, h4⟩ => ?_
    exact ⟨rel_nest h1 h2 (by simpa using h3) hr, by simpa using h4⟩

/-- newest first: the pair `b, a` goes, the pivot `c` stands before it -/
theorem Zig_remove_before (P : List Int) (c b a : Int) (S : List Int)
    (h : Zig (P ++ c :: b :: a :: S)) (hr : rng a b ≤ rng b c) : Zig (P ++ c :: S) := by
  refine Zig_splice P c _ _ h fun u hu => ?_
  cases S with
  | nil => trivial
  | cons d S =>
    -- read backwards, `d, a, b, c` is the situation of `rel_nest`
    obtain ⟨h1, h2, h3, h4⟩ := hu
    exact ⟨rel_swap.mpr (rel_nest (rel_swap.mp (by simpa using h3)) (rel_swap.mp h2)
      (rel_swap.mp h1) hr), by simpa using h4⟩

theorem Zig_adj_ne (P : List Int) (a b : Int) (S : List Int) (h : Zig (P ++ a :: b :: S)) : a ≠ b := by
  obtain ⟨_, h⟩ := (Zig_suffix P h).dir
  exact rel_ne h.1

/-- `x` lies on the inner side of the extreme value `M` (`up`: `M` is a maximum) -/
def bd (up : Bool) (M x : Int) : Prop := if up then x ≤ M else M ≤ x

/-- a step that arrives at `e` from its inner side goes in the direction of the bound -/
theorem bd_dir {u up : Bool} {e x : Int} (h : rel u x e) (hb : bd up e x) : u = up := by
  cases u <;> cases up <;> simp only [rel_true, rel_false, bd, if_true, Bool.false_eq_true, if_false] at h hb <;>
    first | rfl | omega

/-- two alternating sequences glued at a shared point `e` that bounds both from the same side -/
theorem Zig_glue_ext (up : Bool) (X Y : List Int) (e : Int) (h1 : Zig (X ++ [e]))
    (h2 : Zig (e :: Y)) (hb : ∀ v ∈ X ++ Y, bd up e v) : Zig (X ++ e :: Y) := by
  rcases List.eq_nil_or_concat X with h | ⟨Z, a, h⟩
  · rwa [h]
  · obtain rfl : X = Z ++ [a] := by simpa using h
    cases Y with
    | nil => exact h1
    | cons y Y' =>
      -- both neighbours of `e` lie on its inner side: the sequence arrives at `e` and leaves it in opposite directions
      rw [List.append_assoc] at h1 ⊢
      refine Zig_splice Z a _ _ h1 fun u hu => ?_
      obtain ⟨v, g⟩ := h2.dir
      obtain rfl := bd_dir hu.1 (hb a (by simp))
      obtain rfl := bd_dir (rel_swap.mp g.1) (hb y (by simp))
      exact ⟨hu.1, by simpa using g⟩

theorem Zig_turn (P : List Int) (a b c : Int) (S : List Int) (h : Zig (P ++ a :: b :: c :: S)) :
    (a < b ∧ b > c) ∨ (a > b ∧ b < c) := by
  obtain ⟨_, h⟩ := (Zig_suffix P h).dir
  exact (rel_turn h.1).mpr h.2.1

/-- what the loop keeps after `p` alternates, starting in the direction of the first step -/
theorem pvGo_zigD (l : List Int) (up : Bool) (p : Int) (h : ∀ cur ∈ l.head?, rel up p cur) :
    ZigD up (p :: pvGo true p l) := by
  fun_induction pvGo true p l generalizing up with
  | case1 => trivial
  | case2 p last => exact ⟨h last rfl, trivial⟩
  | case3 p last hk => exact absurd rfl hk
  | case4 p cur next rest hk ih =>
    have h' := h cur rfl
    exact ⟨h', ih (!up) fun c hc => Option.some.inj hc ▸ (rel_turn h').mp hk⟩
  | case5 p cur next rest hk ih =>
    -- `cur` is skipped: the record goes on from `cur` to `next` in the same direction
    have h' := h cur rfl
    refine ih up fun c hc => Option.some.inj hc ▸ ?_
    have := mt (rel_turn h').mpr hk
    cases up <;> simp only [rel_true, rel_false, Bool.not_true, Bool.not_false] at h' this ⊢ <;> omega

theorem pv_zig_aux (rest : List Int) (x : Int) (h : ∃ y ∈ rest, y ≠ x) : Zig (x :: pvGo true x rest) := by
  induction rest with
  | nil => obtain ⟨_, hy, _⟩ := h; cases hy
  | cons cur rest ih =>
    rcases Int.lt_trichotomy x cur with hlt | rfl | hgt
    · exact (pvGo_zigD (cur :: rest) true x fun c hc => Option.some.inj hc ▸ hlt).zig
    · -- a leading repetition of `x` is skipped
      obtain ⟨y, hy, hne⟩ := h
      have hy' : y ∈ rest := (List.mem_cons.mp hy).resolve_left hne
      cases rest with
      | nil => cases hy'
      | cons next rest =>
        rw [pvGo, if_neg (by omega)]
        exact ih ⟨y, hy', hne⟩
    · exact (pvGo_zigD (cur :: rest) false x fun c hc => Option.some.inj hc ▸ hgt).zig

theorem pv_zig (h : List Int) (hc : isConstant h = false) : Zig (pv true h) := by
  cases h with
  | nil => simp [isConstant] at hc
  | cons x rest =>
    simp only [isConstant, List.all_eq_false, beq_iff_eq] at hc
    simpa [pv] using pv_zig_aux rest x hc

theorem pvGo_zig (l : List Int) (p : Int) (u : Bool) (h : ZigD u (p :: l)) : pvGo true p l = l := by
  fun_induction pvGo true p l generalizing u with
  | case1 => rfl
  | case2 p last => rfl
  | case3 p last hk => exact absurd rfl hk
  | case4 p cur next rest hk ih => rw [ih (!u) h.2]
  | case5 p cur next rest hk ih => exact absurd ((rel_turn h.1).mpr h.2.1) hk

theorem pv_of_zig (l : List Int) (hz : Zig l) : pv true l = l := by
  cases l with
  | nil => rfl
  | cons x rest =>
    obtain ⟨_, h⟩ := hz.dir
    simp [pv, pvGo_zig rest x _ h]

theorem pvGo_sublist (k : Bool) (l : List Int) (p : Int) : (pvGo k p l).Sublist l := by
  fun_induction pvGo k p l with
  | case1 => exact .slnil
  | case2 p last => exact .refl _
  | case3 p last => exact List.nil_sublist _
  | case4 p cur next rest h ih => exact ih.cons_cons cur
  | case5 p cur next rest h ih => exact ih.cons cur

theorem pv_sublist (k : Bool) (h : List Int) : (pv k h).Sublist h := by
  cases h with
  | nil => simp [pv]
  | cons x rest =>
    cases k
    · simpa [pv] using (pvGo_sublist false rest x).cons x
    · simpa [pv] using (pvGo_sublist true rest x).cons_cons x

/-! `listMax` / `listMin` of a non-empty list are core's `List.max?` / `List.min?` -/

theorem listMax_eq (x : Int) (xs : List Int) : (x :: xs).max? = some (listMax (x :: xs)) := rfl
theorem listMin_eq (x : Int) (xs : List Int) : (x :: xs).min? = some (listMin (x :: xs)) := rfl

theorem le_listMax {h : List Int} {x : Int} (hx : x ∈ h) : x ≤ listMax h := by
  cases h with
  | nil => cases hx
  | cons y l => exact (List.max?_le_iff (listMax_eq y l)).mp (Int.le_refl _) x hx

theorem listMin_le {h : List Int} {x : Int} (hx : x ∈ h) : listMin h ≤ x := by
  cases h with
  | nil => cases hx
  | cons y l => exact (List.le_min?_iff (listMin_eq y l)).mp (Int.le_refl _) x hx

theorem listMax_mem : ∀ h : List Int, h ≠ [] → listMax h ∈ h
  | [], hne => absurd rfl hne
  | x :: xs, _ => List.max?_mem (listMax_eq x xs)

theorem listMin_mem : ∀ h : List Int, h ≠ [] → listMin h ∈ h
  | [], hne => absurd rfl hne
  | x :: xs, _ => List.min?_mem (listMin_eq x xs)

theorem nonconst_min_lt_max (h : List Int) (hc : isConstant h = false) : listMin h < listMax h := by
  cases h with
  | nil => simp [isConstant] at hc
  | cons x xs =>
    simp only [isConstant, List.all_eq_false, beq_iff_eq] at hc
    obtain ⟨y, hy, hne⟩ := hc
    have hx' : x ∈ x :: xs := by simp
    have hy' : y ∈ x :: xs := List.mem_cons_of_mem _ hy
    have := le_listMax hx'; have := le_listMax hy'
    have := listMin_le hx'; have := listMin_le hy'
    omega

theorem rng_le_span {h : List Int} {a b : Int} (ha : a ∈ h) (hb : b ∈ h) : rng a b ≤ span h := by
  have := le_listMax ha; have := le_listMax hb; have := listMin_le ha; have := listMin_le hb
  unfold rng span; omega

/-! `bd` in order form, for arithmetic: forgetting the side, and two points bounding from opposite sides -/

theorem bd_self (up : Bool) (M : Int) : bd up M M := by
  cases up <;> exact Int.le_refl M

theorem bd_all {up : Bool} {M : Int} {L : List Int} (h : ∀ y ∈ L, bd up M y) :
    (∀ y ∈ L, y ≤ M) ∨ (∀ y ∈ L, M ≤ y) := by
  cases up
  · exact Or.inr h
  · exact Or.inl h

theorem bd_between {up : Bool} {e f x : Int} (he : bd (!up) e x) (hf : bd up f x) :
    (e ≤ x ∧ x ≤ f) ∨ (f ≤ x ∧ x ≤ e) := by
  cases up
  · exact Or.inr ⟨hf, he⟩
  · exact Or.inl ⟨he, hf⟩

end FF
