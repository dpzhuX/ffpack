import Lean.Meta.Tactic.Simp.RegisterCommand

/-- evaluates the scalar interface `FF.Transc` at the reals -/
register_simp_attr real_scalar
