/- Census facts shared by C02/C04/C06.  The counters that work on a stack (rainflow, range pair forward and
backward, four point) all cut cycles out of the alternating reversal sequence and go on with what is left;
`Census` is the invariant of that, and each machine has one lemma saying that it maintains it (simple range
counting needs `halves_good` only).  `Run R` is a sequence of `R`-steps together with the cycles it takes out; the
three-point procedure is followed as such a run (`RfStep`, `RfRun`).  The two per-peak counters evaluate a
function at the peaks that the specification lists (`peaksGo_eq_filterMap`).  Core Lean only. -/
import FFVerif.Lemmas.Zig
import FFVerif.Lemmas.Rainflow
import FFVerif.Lemmas.Scan
namespace FF
open C06

/-- a cycle between two distinct values of `S` -/
def Good (S : List Int) (c : Cyc) : Prop := c.a ∈ S ∧ c.b ∈ S ∧ c.a ≠ c.b

theorem Good.mono {S S' : List Int} {c : Cyc} (h : Good S c) (hs : ∀ x ∈ S, x ∈ S') : Good S' c :=
  ⟨hs _ h.1, hs _ h.2.1, h.2.2⟩

/-- whole cycle between distinct points of `S` -/
def GoodW (S : List Int) (c : Cyc) : Prop := Good S c ∧ c.half = false

theorem halves_good (l : List Int) (hz : Zig l) : ∀ c ∈ halves l, Good l c := by
  fun_induction halves l with
  | case1 a b rest ih =>
    intro c hc
    rcases List.mem_cons.mp hc with rfl | hc
    · exact ⟨by simp, by simp, Zig_adj_ne [] a b rest hz⟩
    · exact (ih (Zig_tail hz) c hc).mono fun x hx => List.mem_cons_of_mem _ hx
  | case2 l h => intro c hc; cases hc

/-- the state of a counter that cuts cycles out of the sequence `S`: so far it has counted `cs` and is
left with the sequence `S'`.  Every cycle joins two points of `S`, every half-unit counted has cost one
point, and if `S` alternates then so does `S'` and the two ends of every cycle differ.  `w`: whole
cycles only. -/
structure Census (w : Bool) (S : List Int) (cs : List Cyc) (S' : List Int) : Prop where
  sub : ∀ x ∈ S', x ∈ S
  ne : S ≠ [] → S' ≠ []
  mem : ∀ c ∈ cs, c.a ∈ S ∧ c.b ∈ S
  units : totalUnits cs + S'.length = S.length
  whole : w = true → ∀ c ∈ cs, c.half = false
  alt : Zig S → Zig S' ∧ ∀ c ∈ cs, c.a ≠ c.b

namespace Census
variable {w : Bool} {S S' : List Int} {cs : List Cyc}

theorem start (w : Bool) (S : List Int) : Census w S [] S :=
  ⟨fun _ h => h, id, by simp, by simp [totalUnits], by simp, fun hz => ⟨hz, by simp⟩⟩

theorem step (h : Census w S cs S') {c : Cyc} {T : List Int} (hs : ∀ x ∈ T, x ∈ S') (hne : T ≠ [])
    (ha : c.a ∈ S') (hb : c.b ∈ S') (hu : c.units + T.length = S'.length)
    (hw : w = true → c.half = false) (hz : Zig S' → Zig T ∧ c.a ≠ c.b) : Census w S (cs ++ [c]) T where
  sub x hx := h.sub x (hs x hx)
  ne _ := hne
  mem := List.forall_mem_append.mpr ⟨h.mem, List.forall_mem_singleton.mpr ⟨h.sub _ ha, h.sub _ hb⟩⟩
  units := by
    have := h.units
    have : totalUnits [c] = c.units := Nat.add_zero _
    rw [totalUnits_append]; omega
  whole hw' := List.forall_mem_append.mpr ⟨h.whole hw', List.forall_mem_singleton.mpr (hw hw')⟩
  alt hS :=
    have ⟨z, hd⟩ := h.alt hS
    ⟨(hz z).1, List.forall_mem_append.mpr ⟨hd, List.forall_mem_singleton.mpr (hz z).2⟩⟩

theorem cut {P Q : List Int} {a b c : Int} (h : Census w S cs (P ++ a :: b :: c :: Q))
    (hr : rng a b ≤ rng b c) : Census w S (cs ++ [⟨a, b, false⟩]) (P ++ c :: Q) :=
  h.step (((List.Sublist.refl (c :: Q)).cons b |>.cons a).append_left P).subset (by simp) (by simp) (by simp)
    (by simp [Cyc.units]; omega) (fun _ => rfl)
    (fun hz => ⟨Zig_remove_after P a b c Q hz hr, Zig_adj_ne P a b (c :: Q) hz⟩)

theorem cutAfter {P K : List Int} {a b c : Int} (h : Census w S cs (P ++ a :: b :: c :: K))
    (hr : rng b c ≤ rng a b) : Census w S (cs ++ [⟨b, c, false⟩]) (P ++ a :: K) :=
  h.step (((List.Sublist.refl K).cons c |>.cons b |>.cons_cons a).append_left P).subset (by simp) (by simp) (by simp)
    (by simp [Cyc.units]; omega) (fun _ => rfl)
    (fun hz => ⟨Zig_remove_before P a b c K hz (by rw [rng_comm c b, rng_comm b a]; exact hr),
      Zig_adj_ne (P ++ [a]) b c K (by simpa using hz)⟩)

theorem dropFirst {Q : List Int} {a b : Int} (h : Census false S cs (a :: b :: Q)) :
    Census false S (cs ++ [⟨a, b, true⟩]) (b :: Q) :=
  h.step (fun x hx => List.mem_cons_of_mem _ hx) (by simp) (by simp) (by simp)
    (by simp [Cyc.units]; omega) (by simp) (fun hz => ⟨Zig_tail hz, Zig_adj_ne [] a b Q hz⟩)

theorem good (h : Census w S cs S') (hz : Zig S) : ∀ c ∈ cs, Good S c :=
  fun c hc => ⟨(h.mem c hc).1, (h.mem c hc).2, (h.alt hz).2 c hc⟩

theorem goodW (h : Census true S cs S') (hz : Zig S) : ∀ c ∈ cs, GoodW S c :=
  fun c hc => ⟨h.good hz c hc, h.whole rfl c hc⟩

theorem total_le (h : Census w S cs S') (hS : S ≠ []) : totalUnits cs + 1 ≤ S.length := by
  have := h.units
  have := List.length_pos_iff.mpr (h.ne hS)
  omega

end Census

/-- a run of `R`-steps from `L` to `N`, listing the cycles taken out on the way: the closure under which the
three-point procedure (`RfRun`, below) and four-point extraction (`Steps`, Confl.lean) are studied -/
inductive Run (R : List Int → Cyc → List Int → Prop) : List Int → List Cyc → List Int → Prop
  | nil (L : List Int) : Run R L [] L
  | cons {L : List Int} {c : Cyc} {L' : List Int} {cs : List Cyc} {N : List Int} :
      R L c L' → Run R L' cs N → Run R L (c :: cs) N

namespace Run
variable {R R' : List Int → Cyc → List Int → Prop} {L M N : List Int} {cs ds : List Cyc}

theorem trans (r : Run R L cs M) (t : Run R M ds N) : Run R L (cs ++ ds) N := by
  induction r with
  | nil L => exact t
  | cons s _ ih => exact .cons s (ih t)

/-- steps inside a context `f` -/
theorem map (f : List Int → List Int) (hf : ∀ {L c L'}, R L c L' → R' (f L) c (f L'))
    (r : Run R L cs M) : Run R' (f L) cs (f M) := by
  induction r with
  | nil L => exact .nil _
  | cons s _ ih => exact .cons (hf s) ih

/-- what every step maintains between the cycles counted so far and the sequence, a run maintains -/
theorem fold {J : List Cyc → List Int → Prop} (hJ : ∀ {o L c L'}, R L c L' → J o L → J (o ++ [c]) L')
    (r : Run R L cs N) {o : List Cyc} (h : J o L) : J (o ++ cs) N := by
  induction r generalizing o with
  | nil L => simpa using h
  | cons s _ ih => simpa using ih (hJ s h)

/-- what every step preserves, a run preserves -/
theorem preserves {I : List Int → Prop} (hI : ∀ {L c L'}, R L c L' → I L → I L')
    (r : Run R L cs M) (h : I L) : I M :=
  r.fold (J := fun _ X => I X) (o := []) hI h

end Run

/-! ### rainflow: what the three-point stack machine does to the sequence

One extraction of the three-point procedure, seen on the whole sequence (oldest first): a whole cycle
`a–b` nested in both neighbouring ranges, or a half cycle from the starting point.  A run of the
machine is a list of such extractions ending in a sequence of strictly decreasing ranges; what the
procedure is known to satisfy is read off that. -/

inductive RfStep : List Int → Cyc → List Int → Prop
  | whole (P : List Int) (r a b c : Int) (Q : List Int) : rng a b ≤ rng b c → rng a b < rng r a →
      RfStep (P ++ r :: a :: b :: c :: Q) ⟨a, b, false⟩ (P ++ r :: c :: Q)
  | half (a b c : Int) (Q : List Int) : rng a b ≤ rng b c →
      RfStep (a :: b :: c :: Q) ⟨a, b, true⟩ (b :: c :: Q)

abbrev RfRun := Run RfStep

theorem RfStep.census {S L L' : List Int} {o : List Cyc} {c : Cyc} (s : RfStep L c L')
    (h : Census false S o L) : Census false S (o ++ [c]) L' := by
  cases s with
  | whole P r a b c Q h1 _ =>
    have h0 : Census false S o ((P ++ [r]) ++ a :: b :: c :: Q) := by simpa using h
    simpa using h0.cut h1
  | half a b c Q _ => exact h.dropFirst

theorem RfRun.census {S L N : List Int} {o cs : List Cyc} (r : RfRun L cs N)
    (h : Census false S o L) : Census false S (o ++ cs) N :=
  r.fold RfStep.census h

/-- stack newest first, `Q` the points still to come -/
theorem reduce_run (st : List Int) (out : List Cyc) (Q : List Int) (hd : Dec st.tail.reverse) :
    ∃ cs, RfRun (st.reverse ++ Q) cs ((reduce st out).1.reverse ++ Q) ∧
      (reduce st out).2 = out ++ cs ∧ Dec (reduce st out).1.reverse := by
  fun_induction reduce st out with
  | case1 c b a out hlt => exact ⟨[], .nil _, by simp, hlt, trivial⟩
  | case2 c b a out hlt ih =>
    obtain ⟨cs, r, e, d⟩ := ih trivial
    exact ⟨_ :: cs, .cons (RfStep.half a b c Q (by omega)) r, by simp [e], d⟩
  | case3 c b a r rest out hlt => exact ⟨[], .nil _, by simp, Dec_reverse_cons.mpr ⟨hlt, hd⟩⟩
  | case4 c b a r rest out hlt ih =>
    obtain ⟨h1, hd'⟩ := Dec_reverse_cons.mp hd
    obtain ⟨cs, run, e, d⟩ := ih (Dec_reverse_tail hd')
    exact ⟨_ :: cs, .cons (by simpa using RfStep.whole rest.reverse r a b c Q (by omega) h1) run,
      by simp [e], d⟩
  | case5 st out h1 h2 =>
    exact ⟨[], .nil _, by simp, Dec_short _ (by simpa using reduce_short_of h1 h2)⟩

theorem astmGo_run (ps st : List Int) (out : List Cyc) (hd : Dec st.reverse) :
    ∃ cs N, RfRun (st.reverse ++ ps) cs N ∧ Dec N ∧ astmGo st ps out = out ++ cs ++ halves N := by
  induction ps generalizing st out with
  | nil => exact ⟨[], st.reverse, by simpa using Run.nil _, hd, by rw [astmGo]; simp⟩
  | cons p ps ih =>
    obtain ⟨cs, r, e, d⟩ := reduce_run (p :: st) out ps hd
    obtain ⟨ds, N, r', dN, e'⟩ := ih _ (reduce (p :: st) out).2 d
    exact ⟨cs ++ ds, N, by simpa using r.trans r', dN, by rw [astmGo_cons, e', e]; simp⟩

theorem astm_run (R : List Int) : ∃ cs N, RfRun R cs N ∧ Dec N ∧ astm R = cs ++ halves N :=
  astmGo_run R [] [] trivial

theorem astm_census (R : List Int) (hR : R ≠ []) :
    totalUnits (astm R) + 1 = R.length ∧ (Zig R → ∀ c ∈ astm R, Good R c) := by
  obtain ⟨cs, N, r, _, e⟩ := astm_run R
  have h : Census false R cs N := r.census (Census.start false R)
  rw [e]
  refine ⟨?_, fun hz c hc => ?_⟩
  · have := h.units
    have := List.length_pos_iff.mpr (h.ne hR)
    rw [totalUnits_append, totalUnits_halves]; omega
  · rcases List.mem_append.mp hc with hc | hc
    · exact h.good hz c hc
    · exact (halves_good _ (h.alt hz).1 c hc).mono h.sub

theorem rpReduce_census {w : Bool} {S : List Int} (st : List Int) (out : List Cyc) (Q : List Int)
    (h : Census w S out (st.reverse ++ Q)) :
    Census w S (rpReduce st out).2 ((rpReduce st out).1.reverse ++ Q) := by
  fun_induction rpReduce st out with
  | case1 c b a rest out hle ih =>
    have h0 : Census w S out (rest.reverse ++ a :: b :: c :: Q) := by simpa using h
    exact ih (by simpa using h0.cut hle)
  | case2 c b a rest out hgt => exact h
  | case3 st out hne => exact h

theorem rpForward_census {w : Bool} {S : List Int} (st ps : List Int) (out : List Cyc)
    (h : Census w S out (st.reverse ++ ps)) :
    Census w S (rpForward st ps out).2 (rpForward st ps out).1.reverse := by
  induction ps generalizing st out with
  | nil => simpa [rpForward] using h
  | cons p ps ih =>
    simp only [rpForward]
    exact ih _ _ (rpReduce_census (p :: st) out ps (by simpa using h))

theorem rpForward_census_nil (w : Bool) (R : List Int) :
    Census w R (rpForward [] R []).2 (rpForward [] R []).1.reverse :=
  rpForward_census [] R [] (Census.start w R)

theorem rpReduce_dec (st : List Int) (out : List Cyc) (h : Dec st.tail.reverse) :
    Dec (rpReduce st out).1.reverse := by
  fun_induction rpReduce st out with
  | case1 c b a rest out hle ih => exact ih (Dec_reverse_tail (Dec_reverse_tail h))
  | case2 c b a rest out hgt => exact Dec_reverse_cons.mpr ⟨by omega, h⟩
  | case3 st out hne => exact Dec_short _ (by simpa using length_le_two hne)

theorem rpForward_dec (st ps : List Int) (out : List Cyc) (h : Dec st.reverse) :
    Dec (rpForward st ps out).1.reverse := by
  induction ps generalizing st out with
  | nil => simpa [rpForward] using h
  | cons p ps ih => simp only [rpForward]; exact ih _ _ (rpReduce_dec (p :: st) out h)

/-- `K`: the points the backward pass has stepped over -/
theorem rpBack_census {w : Bool} {S : List Int} (st : List Int) (out : List Cyc) (K : List Int)
    (h : Census w S out (st.reverse ++ K)) :
    Census w S (rpBack st out).2 ((rpBack st out).1.reverse ++ K) ∧
      (Dec st.reverse → (rpBack st out).1.length ≤ 2) := by
  fun_induction rpBack st out generalizing K with
  | case1 c b a rest out hle r ih =>
    have h0 : Census w S out (rest.reverse ++ a :: b :: c :: K) := by simpa using h
    obtain ⟨i1, i2⟩ := ih K (by simpa using h0.cutAfter hle)
    exact ⟨i1, fun hd => i2 (Dec_reverse_tail (Dec_reverse_tail hd))⟩
  | case2 c b a rest out hgt r ih =>
    obtain ⟨i1, _⟩ := ih (c :: K) (by simpa using h)
    exact ⟨by simpa using i1, fun hd => absurd (Dec_reverse_cons.mp hd).1 (by omega)⟩
  | case3 st out hne =>
    exact ⟨h, fun _ => length_le_two hne⟩

/-- range pair, both passes: whole cycles cut out of the reversal sequence, at most two points left -/
theorem rangePair_census (h : List Int) :
    Census true (pv true h) (rangePair h) (rangePairFull h).1.reverse ∧ (rangePairFull h).1.length ≤ 2 := by
  obtain ⟨b, hlen⟩ := rpBack_census _ _ [] (by simpa using rpForward_census_nil true (pv true h))
  exact ⟨by simpa [rangePair, rangePairFull] using b, hlen (rpForward_dec [] _ [] trivial)⟩

theorem fpGo_census {w : Bool} {S : List Int} (l : List Int) (out : List Cyc) (h : Census w S out l) :
    Census w S (fpGo l out).2 (fpGo l out).1 := by
  fun_induction fpGo l out with
  | case1 l out cy l' heq ih =>
    obtain ⟨P, a, b, c, d, Q, rfl, rfl, rfl, hr, _⟩ := fpRound_shape l cy l' heq
    have h0 : Census w S out ((P ++ [a]) ++ b :: c :: d :: Q) := by simpa using h
    exact ih (by simpa using h0.cut hr)
  | case2 l out heq => exact h

/-! ### the per-peak counters

`peaksGo f` evaluates `f` at the interior peaks of the sequence, which the specification lists as `peaksCtx`;
what is needed of the walk is proved of that list. -/

theorem peaksGo_eq_filterMap (f : List Int → Int → List Int → Option Cyc) : ∀ left right : List Int,
    peaksGo f left right = (peaksCtx left right).filterMap (fun p => f p.1 p.2.1 p.2.2) := by
  intro left right
  fun_induction peaksCtx left right with
  | case1 cur next rest ih => rw [peaksGo]; exact ih
  | case2 cur next rest p l ih =>
    rw [peaksGo]
    split
    · rw [List.singleton_append, List.filterMap_cons, ← ih]
      cases f (p :: l) cur (next :: rest) <;> rfl
    · rw [List.nil_append, ← ih]
  | case3 left right h =>
    rw [peaksGo]
    · rfl
    · exact h

/-- a visited peak has a lower neighbour on either side, and its contexts are the two parts of the sequence -/
theorem peaksCtx_mem (left right : List Int) : ∀ L M R, (L, M, R) ∈ peaksCtx left right →
    (∃ q l n r, L = q :: l ∧ R = n :: r ∧ q < M ∧ n < M) ∧ L.reverse ++ M :: R = left.reverse ++ right := by
  fun_induction peaksCtx left right with
  | case1 cur next rest ih => exact ih
  | case2 cur next rest q l ih =>
    intro L M R hp
    rcases List.mem_append.mp hp with hp | hp
    · split at hp
      · rename_i hk
        cases List.mem_singleton.mp hp
        exact ⟨⟨q, l, next, rest, rfl, rfl, hk.1, hk.2⟩, rfl⟩
      · cases hp
    · exact (ih L M R hp).imp_right fun e => e.trans (by rw [List.reverse_cons, List.append_assoc]; rfl)
  | case3 left right h => intro L M R hp; cases hp

/-- peaks cannot be adjacent: after a point `p`, at most one peak per two points to come, and the first of
them is no peak if it is not above `p` -/
theorem peaksCtx_length (p : Int) (l : List Int) (cur : Int) (r : List Int) :
    2 * (peaksCtx (p :: l) (cur :: r)).length ≤ r.length + 1 ∧
      (cur ≤ p → 2 * (peaksCtx (p :: l) (cur :: r)).length ≤ r.length) := by
  induction r generalizing p l cur with
  | nil => exact ⟨Nat.zero_le _, fun _ => Nat.zero_le _⟩
  | cons next rest ih =>
    obtain ⟨i1, i2⟩ := ih cur (p :: l) next
    rw [peaksCtx, List.length_append, List.length_cons]
    split
    · rename_i hk
      have := i2 (Int.le_of_lt hk.2)
      rw [List.length_singleton]
      exact ⟨by omega, fun h => absurd hk.1 (Int.not_lt.mpr h)⟩
    · rw [List.length_nil, Nat.zero_add]
      exact ⟨Nat.le_succ_of_le i1, fun _ => i1⟩

/-- what the per-peak function must deliver: a whole cycle between distinct points of the record -/
def PeakFn (f : List Int → Int → List Int → Option Cyc) : Prop :=
  ∀ (p : Int) (l : List Int) (cur next : Int) (r : List Int) (c : Cyc), cur > p → cur > next →
    f (p :: l) cur (next :: r) = some c → GoodW ((p :: l).reverse ++ cur :: next :: r) c

theorem peaksGo_good (f : List Int → Int → List Int → Option Cyc) (hf : PeakFn f)
    (left right : List Int) : ∀ c ∈ peaksGo f left right, GoodW (left.reverse ++ right) c := by
  intro c hc
  rw [peaksGo_eq_filterMap] at hc
  obtain ⟨⟨L, M, R⟩, hp, hc⟩ := List.mem_filterMap.mp hc
  obtain ⟨⟨q, l, n, r, rfl, rfl, hq, hn⟩, e⟩ := peaksCtx_mem left right L M R hp
  exact e ▸ hf q l M n r c hq hn hc

theorem peaksGo_total (f : List Int → Int → List Int → Option Cyc) (hf : PeakFn f) (R : List Int) (hR : R ≠ []) :
    totalUnits (peaksGo f [] R) + 1 ≤ R.length := by
  rw [totalUnits_wholes fun c hc => (peaksGo_good f hf [] R c hc).2]
  rcases R with _ | ⟨a, _ | ⟨b, r⟩⟩
  · exact absurd rfl hR
  · exact Nat.le_refl 1
  · rw [peaksGo, peaksGo_eq_filterMap]
    have := List.length_filterMap_le (fun p => f p.1 p.2.1 p.2.2) (peaksCtx [a] (b :: r))
    have := (peaksCtx_length a [] b r).1
    simp only [List.length_cons]; omega

theorem rychlik_fn : PeakFn (fun l m r => some ⟨max (scanMin m l) (scanMinLe m r), m, false⟩) := by
  intro p l cur next r c hp hn hc
  simp only [Option.some.injEq] at hc; subst hc
  obtain ⟨m1, l1⟩ := scanMin_spec l hp
  obtain ⟨m2, l2⟩ := scanMinLe_spec r hn
  refine ⟨⟨?_, by simp, ?_⟩, rfl⟩
  · show max (scanMin cur (p :: l)) (scanMinLe cur (next :: r)) ∈ _
    rw [Int.max_def]; split
    · exact List.mem_append_right _ (List.mem_cons_of_mem _ m2)
    · exact List.mem_append_left _ (List.mem_reverse.mpr m1)
  · show max (scanMin cur (p :: l)) (scanMinLe cur (next :: r)) ≠ cur
    omega

theorem johannesson_fn : PeakFn (fun l m _ => some ⟨scanMin m l, m, false⟩) := by
  intro p l cur next r c hp hn hc
  simp only [Option.some.injEq] at hc; subst hc
  obtain ⟨m1, l1⟩ := scanMin_spec l hp
  exact ⟨⟨List.mem_append_left _ (List.mem_reverse.mpr m1), by simp, by show scanMin cur (p :: l) ≠ cur; omega⟩, rfl⟩

end FF
