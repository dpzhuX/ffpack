/- Cutting a periodic history at another point does not change the repeating-history count.  Two facts
carry it: rotating the reversal sequence to its first maximum is filtering the samples rotated to
that maximum (`repeat_rotate`), and the forward pass counts two periods glued at the maximum
separately (`rpU_split`), so it does not matter at which of several equal maxima the period starts.
Core Lean only. -/
import FFVerif.Lemmas.Refine
import FFVerif.Lemmas.Repeat
import FFVerif.Lemmas.RfRpClosed
namespace FF

def rpU (L : List Int) (k : Nat) : Nat := unitsAt (rpForward [] L []).2 k

theorem rpU_short (L : List Int) (h : L.length ≤ 2) (k : Nat) : rpU L k = 0 := by
  unfold rpU; rw [rpForward_short L h]; rfl

/-- a first period from `M` to `M` below `M` leaves the stack `[M]`, which is where a sequence starting
at `M` starts from -/
theorem rpU_closed_append {M : Int} {Z : List Int} (hz : Zig (M :: (Z ++ [M]))) (hb : ∀ x ∈ Z, x ≤ M)
    (Q : List Int) (k : Nat) :
    rpU (M :: (Z ++ M :: Q)) k = rpU (M :: (Z ++ [M])) k + rpU (M :: Q) k := by
  have sx : (rpForward [] (M :: (Z ++ [M])) []).1 = [M] :=
    (closed_units true M (Z ++ [M]) hz (List.forall_mem_append.mpr ⟨hb, by simp [bd]⟩)
      (List.getLast?_concat (l := M :: Z))).1
  have sy : rpForward [] (M :: Q) [] = rpForward [M] Q [] := by
    simp only [rpForward]; rw [rpReduce_short _ _ (by simp)]
  have := rpForward_out Q [M] (rpForward [] (M :: (Z ++ [M])) []).2 []
  rw [List.append_nil] at this
  unfold rpU
  rw [List.append_cons, ← List.cons_append, rpForward_append, sx, this, sy, unitsAt_append]

theorem rpU_split (M : Int) (X Y : List Int) (hX : ∀ x ∈ X, x ≤ M) (hY : ∀ x ∈ Y, x ≤ M) (k : Nat) :
    rpU (pv true (M :: (X ++ M :: (Y ++ [M])))) k
      = rpU (pv true (M :: (X ++ [M]))) k + rpU (pv true (M :: (Y ++ [M]))) k := by
  obtain ⟨ZX, eX, sX, zX⟩ := pv_ends M M X
  obtain ⟨ZY, eY, sY, zY⟩ := pv_ends M M Y
  have bX : ∀ z ∈ ZX, z ≤ M := fun z hz => hX z (sX.subset hz)
  have bY : ∀ z ∈ ZY, z ≤ M := fun z hz => hY z (sY.subset hz)
  rw [pv_glue eX eY, eX, eY]
  by_cases nY : ZY = []
  · -- the second period is constant: its `M` repeats the last sample of the first
    subst nY
    simp only [List.nil_append]
    rw [rpU_short [M, M] (by simp), Nat.add_zero, pv_dup_last, ← eX, pv_true_idem]
  by_cases nX : ZX = []
  · -- the first period is constant: its `M` repeats the first sample of the second
    subst nX
    simp only [List.nil_append]
    rw [rpU_short [M, M] (by simp), Nat.zero_add, pv_dup_head _ _ _ (by simp), ← eY, pv_true_idem]
  · -- both alternate, and so does the glued sequence
    have hz : Zig (M :: (ZX ++ M :: (ZY ++ [M]))) :=
      Zig_glue_ext true (M :: ZX) (ZY ++ [M]) M (zX (.inr nX)) (zY (.inr nY))
        (List.forall_mem_append.mpr ⟨List.forall_mem_cons.mpr ⟨Int.le_refl M, bX⟩,
          List.forall_mem_append.mpr ⟨bY, by simp [bd]⟩⟩)
    rw [pv_of_zig _ hz]
    exact rpU_closed_append (zX (.inr nX)) bX (ZY ++ [M]) k

theorem repeat_rotate (B1 B2 : List Int) (M x : Int) (hx : (B1 ++ M :: B2).head? = some x)
    (h1 : ∀ y ∈ B1, y < M) (h2 : ∀ y ∈ B2, y ≤ M) :
    rainflowRepeat (B1 ++ M :: (B2 ++ [x])) = (rpForward [] (pv true (M :: (B2 ++ (B1 ++ [M])))) []).2 := by
  cases B1 with
  | nil =>
    obtain rfl : M = x := by simpa using hx
    exact repeat_from_max M (B2 ++ [M]) (List.forall_mem_append.mpr ⟨h2, by simp⟩)
  | cons x' B1 =>
    obtain rfl : x' = x := by simpa using hx
    have hxM := h1 x' List.mem_cons_self
    obtain ⟨ZA, eA, sA, zA⟩ := pv_ends x' M B1
    obtain ⟨ZB, eB, sB, zB⟩ := pv_ends M x' B2
    have hP : ∀ v ∈ x' :: ZA, v < M := fun v hv => h1 v ((sA.cons_cons x').subset hv)
    have hQ : ∀ v ∈ ZB ++ [x'], v ≤ M :=
      List.forall_mem_append.mpr ⟨fun v hv => h2 v (sB.subset hv), by simpa using Int.le_of_lt hxM⟩
    -- the reversal sequence of the period is that of `x' … M` followed by that of `M … x'`
    have hR : pv true (x' :: B1 ++ M :: (B2 ++ [x'])) = x' :: ZA ++ M :: (ZB ++ [x']) :=
      (pv_glue eA eB).trans (pv_of_zig _ (Zig_glue_ext true (x' :: ZA) (ZB ++ [x']) M
        (zA (.inl (Int.ne_of_lt hxM))) (zB (.inl (Int.ne_of_gt hxM)))
        (List.forall_mem_append.mpr ⟨fun v hv => Int.le_of_lt (hP v hv), hQ⟩)))
    unfold rainflowRepeat
    rw [rotateToMax_eq, hR, rotated_first _ _ M hP hQ]
    simp only [List.cons_append, List.tail_cons, List.append_assoc, List.nil_append]
    rw [pv_glue eB eA]

theorem repeat_units (B1 B2 : List Int) (M x : Int) (hx : (B1 ++ M :: B2).head? = some x)
    (h1 : ∀ y ∈ B1, y ≤ M) (h2 : ∀ y ∈ B2, y ≤ M) (k : Nat) :
    unitsAt (rainflowRepeat (B1 ++ M :: (B2 ++ [x]))) k = rpU (pv true (M :: (B2 ++ (B1 ++ [M])))) k := by
  by_cases hM : M ∈ B1
  · -- rotate to the first maximum, then exchange the two stretches between the maxima
    obtain ⟨A1, A2, rfl, hn⟩ := List.eq_append_cons_of_mem hM
    simp only [List.forall_mem_append, List.forall_mem_cons] at h1
    obtain ⟨hA1, -, hA2⟩ := h1
    have hA1' := lt_of_le_of_not_mem hA1 hn
    have hBA : ∀ v ∈ B2 ++ A1, v ≤ M := List.forall_mem_append.mpr ⟨h2, hA1⟩
    have r := repeat_rotate A1 (A2 ++ M :: B2) M x (by simpa using hx) hA1'
      (List.forall_mem_append.mpr ⟨hA2, List.forall_mem_cons.mpr ⟨Int.le_refl M, h2⟩⟩)
    have s1 := rpU_split M A2 (B2 ++ A1) hA2 hBA k
    have s2 := rpU_split M (B2 ++ A1) A2 hBA hA2 k
    simp only [List.append_assoc, List.cons_append] at r s1 s2 ⊢
    rw [r, s2, Nat.add_comm, ← s1]
    rfl
  · exact congrArg (unitsAt · k) (repeat_rotate B1 B2 M x hx (lt_of_le_of_not_mem h1 hM) h2)

theorem cut_units_of_mem (U V : List Int) (x y M : Int) (hU : (U ++ V).head? = some x)
    (hV : (V ++ U).head? = some y) (hub : ∀ v ∈ U ++ V, v ≤ M) (hM : M ∈ U) (k : Nat) :
    unitsAt (rainflowRepeat (V ++ U ++ [y])) k = unitsAt (rainflowRepeat (U ++ V ++ [x])) k := by
  obtain ⟨U1, U2, rfl⟩ := List.append_of_mem hM
  simp only [List.forall_mem_append, List.forall_mem_cons] at hub
  obtain ⟨⟨hU1, -, hU2⟩, hVb⟩ := hub
  have r1 := repeat_units U1 (U2 ++ V) M x (by simpa using hU) hU1 (List.forall_mem_append.mpr ⟨hU2, hVb⟩) k
  have r2 := repeat_units (V ++ U1) U2 M y (by simpa using hV) (List.forall_mem_append.mpr ⟨hVb, hU1⟩) hU2 k
  simp only [List.append_assoc, List.cons_append] at r1 r2 ⊢
  rw [r1, r2]

/-- the period `U ++ V`, closed by repeating its first sample, against the period `V ++ U` -/
theorem cut_units (U V : List Int) (x y : Int) (hU : (U ++ V).head? = some x) (hV : (V ++ U).head? = some y)
    (k : Nat) :
    unitsAt (rainflowRepeat (V ++ U ++ [y])) k = unitsAt (rainflowRepeat (U ++ V ++ [x])) k := by
  have hne : U ++ V ≠ [] := fun e => by rw [e] at hU; cases hU
  have hub : ∀ v ∈ U ++ V, v ≤ listMax (U ++ V) := fun v hv => le_listMax hv
  rcases List.mem_append.mp (listMax_mem (U ++ V) hne) with hM | hM
  · exact cut_units_of_mem U V x y _ hU hV hub hM k
  · exact (cut_units_of_mem V U y x _ hV hU
      (fun v hv => hub v (List.mem_append.mpr (List.mem_append.mp hv).symm)) hM k).symm

end FF
