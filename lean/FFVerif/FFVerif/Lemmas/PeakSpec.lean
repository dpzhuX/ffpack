/- The reversal sequence walked in step with the de-plateaued history (`revTail b X`: the reversals that follow
a kept point `b`, one equation per kept / skipped sample); peak counting on the reversal sequence lists exactly
the counted local extrema of the de-plateaued history.  Core Lean only. -/
import FFVerif.Lemmas.PeakValley
import FFVerif.Props.C05
namespace FF
open C05

/-- past a point that is not a reversal the record goes on in the same direction -/
theorem goes_on {a b c : Int} (hk : ¬((a < b ∧ b > c) ∨ (a > b ∧ b < c))) (hab : a ≠ b) (hbc : b ≠ c) :
    (a < b ∧ b < c) ∨ (c < b ∧ b < a) :=
  (Int.lt_or_gt_of_ne hab).imp
    (fun g => ⟨g, (Int.lt_or_gt_of_ne hbc).resolve_right fun g' => hk (Or.inl ⟨g, g'⟩)⟩)
    fun g => ⟨(Int.lt_or_gt_of_ne hbc).resolve_left fun g' => hk (Or.inr ⟨g, g'⟩), g⟩

/-- two points on the same side of `z` compare with `z` alike -/
theorem same_side {z x y : Int} (h : (x < z ∧ y < z) ∨ (z < x ∧ z < y)) : (x < z ↔ y < z) ∧ (z < x ↔ z < y) :=
  h.elim (fun h => ⟨iff_of_true h.1 h.2, iff_of_false (Int.lt_asymm h.1) (Int.lt_asymm h.2)⟩)
    fun h => ⟨iff_of_false (Int.lt_asymm h.1) (Int.lt_asymm h.2), iff_of_true h.1 h.2⟩

/-- the reversals that follow a kept point `b` of a record without repeats -/
def revTail (b : Int) (X : List Int) : List Int := turning (b :: X) ++ [lastD X b]

theorem revTail_kept {b c d : Int} (rest : List Int) (h : (b < c ∧ c > d) ∨ (b > c ∧ c < d)) :
    revTail b (c :: d :: rest) = c :: revTail c (d :: rest) := by
  simp only [revTail, turning, if_pos h, lastD, List.cons_append]
theorem revTail_skip {b c d : Int} (rest : List Int) (h : ¬ ((b < c ∧ c > d) ∨ (b > c ∧ c < d))) :
    revTail b (c :: d :: rest) = revTail c (d :: rest) := by
  simp only [revTail, turning, if_neg h, lastD]

/-- after a kept point `b` the next kept point lies on the side the record leaves `b` -/
theorem revTail_head (rest : List Int) (b c : Int) (h : NoRep (b :: c :: rest)) :
    ∃ n t, revTail b (c :: rest) = n :: t ∧ (b > c → n < b) ∧ (b < c → n > b) := by
  induction rest generalizing b c with
  | nil => exact ⟨c, [], rfl, id, id⟩
  | cons d rest ih =>
    by_cases hk : (b < c ∧ c > d) ∨ (b > c ∧ c < d)
    · exact ⟨c, _, revTail_kept rest hk, id, id⟩
    · obtain ⟨n, t, e, h1, h2⟩ := ih c d h.2
      refine ⟨n, t, (revTail_skip rest hk).trans e, ?_⟩
      rcases goes_on hk h.1 h.2.1 with m | m
      · exact ⟨fun g => absurd g (Int.lt_asymm m.1), fun _ => Int.lt_trans m.1 (h2 m.2)⟩
      · exact ⟨fun _ => Int.lt_trans (h1 m.1) m.2, fun g => absurd g (Int.lt_asymm m.2)⟩

theorem peakGo_eq_extremaSpec (ref : Int) : ∀ l : List Int, peakGo ref l = extremaSpec ref l
  | [] => rfl
  | [_] => rfl
  | [_, _] => rfl
  | p :: c :: n :: rest => by
    rw [peakGo, extremaSpec, peakGo_eq_extremaSpec ref (c :: n :: rest)]
    split <;> rfl

/-- `a'` stands for the last kept point before `b`: it lies on the side of `b` on which `a` lies -/
theorem extremaSpec_reversals (ref : Int) (rest : List Int) (a a' b : Int) (h : NoRep (a :: b :: rest))
    (s : (a' < b ↔ a < b) ∧ (b < a' ↔ b < a)) :
    extremaSpec ref (a' :: revTail a (b :: rest)) = extremaSpec ref (a :: b :: rest) := by
  induction rest generalizing a a' b with
  | nil => rfl
  | cons c rest ih =>
    by_cases hk : (a < b ∧ b > c) ∨ (a > b ∧ b < c)
    · -- `b` is a reversal; its successors `n` and `c` lie on the same side of it
      obtain ⟨n, t, e, h1, h2⟩ := revTail_head rest b c h.2
      have hn : (n < b ↔ c < b) ∧ (b < n ↔ b < c) :=
        same_side ((Int.lt_or_gt_of_ne h.2.1).symm.imp (fun hbc => ⟨h1 hbc, hbc⟩) fun hbc => ⟨h2 hbc, hbc⟩)
      have ih := ih b b c h.2 ⟨Iff.rfl, Iff.rfl⟩
      rw [e] at ih
      rw [revTail_kept rest hk, e, extremaSpec, ih, extremaSpec]
      simp only [gt_iff_lt, hn.1, hn.2, s.1, s.2]
    · -- `b` lies on a monotone stretch that goes on to `c`: `a'` and `b` lie on the same side of `c`
      rw [revTail_skip rest hk, extremaSpec, if_neg fun hc => hk (hc.imp (fun x => ⟨x.1, x.2.1⟩) fun x => ⟨x.1, x.2.1⟩)]
      exact ih b a' c h.2 (same_side ((goes_on hk h.1 h.2.1).imp (fun m => ⟨Int.lt_trans (s.1.mpr m.1) m.2, m.2⟩)
        fun m => ⟨Int.lt_trans m.1 (s.2.mpr m.2), m.1⟩))

theorem reversals_dedup (x y : Int) (rest : List Int) : ∃ t, dedup (x :: y :: rest) = x :: t ∧ NoRep (x :: t) ∧
    reversals (x :: y :: rest) = x :: revTail x t := by
  obtain ⟨t, ht⟩ := dedup_head x (y :: rest)
  refine ⟨t, ht, ht ▸ dedup_noRep _, ?_⟩
  rw [reversals, ht]
  exact congrArg (fun d => x :: (turning (x :: t) ++ [d])) ((lastD_dedup (x :: y :: rest) x).symm.trans (by rw [ht]; rfl))

/-- `astmPeakCounting` (model) lists exactly the counted local extrema, in time order -/
theorem peakSeq_eq_extrema (h : List Int) (ref : Int) : peakSeq h ref = extremaSpec ref (dedup h) := by
  rw [peakSeq, pv_true_eq_reversals, peakGo_eq_extremaSpec]
  match h with
  | [] => rfl
  | [x] => rfl
  | x :: y :: rest =>
    obtain ⟨t, ht, hn, hr⟩ := reversals_dedup x y rest
    rw [hr, ht]
    cases t with
    | nil => rfl
    | cons b t => exact extremaSpec_reversals ref t x x b hn ⟨Iff.rfl, Iff.rfl⟩

end FF
