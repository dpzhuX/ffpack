/- The real-number instance of the scalar interface of the generated definitions. -/
import Mathlib.Analysis.SpecialFunctions.Pow.Real
import Mathlib.Analysis.SpecialFunctions.Gamma.Basic
import Mathlib.Analysis.SpecialFunctions.Trigonometric.Basic
import FFVerif.Model.Scalar
import FFVerif.Lemmas.RealScalarAttr

namespace FF
open Classical in
noncomputable instance : Transc ℝ where
  toAdd := inferInstance
  toSub := inferInstance
  toMul := inferInstance
  toDiv := inferInstance
  toNeg := inferInstance
  lit m e := (m : ℝ) / 10 ^ e
  npow x n := x ^ n
  rpow x y := x ^ y
  exp := Real.exp
  log := Real.log
  log10 x := Real.log x / Real.log 10
  sqrt := Real.sqrt
  sin := Real.sin
  gamma := Real.Gamma
  pi := Real.pi
  max2 := max
  ltb a b := decide (a < b)
  leb a b := decide (a ≤ b)
  eqb a b := decide (a = b)

@[simp] theorem lit_real (m e : Nat) : (Transc.lit m e : ℝ) = (m : ℝ) / 10 ^ e := rfl
/-- the whole-number constants of the models -/
theorem lit_exp_zero (m : ℕ) : (Transc.lit m 0 : ℝ) = m := by rw [lit_real, pow_zero, div_one]
@[simp] theorem npow_real (x : ℝ) (n : Nat) : Transc.npow x n = x ^ n := rfl
@[simp] theorem rpow_real (x y : ℝ) : Transc.rpow x y = x ^ y := rfl
@[simp] theorem exp_real (x : ℝ) : Transc.exp x = Real.exp x := rfl
@[simp] theorem log_real (x : ℝ) : Transc.log x = Real.log x := rfl
@[simp] theorem log10_real (x : ℝ) : Transc.log10 x = Real.log x / Real.log 10 := rfl
@[simp] theorem sqrt_real (x : ℝ) : Transc.sqrt x = Real.sqrt x := rfl
@[simp] theorem sin_real (x : ℝ) : Transc.sin x = Real.sin x := rfl
@[simp] theorem gamma_real (x : ℝ) : Transc.gamma x = Real.Gamma x := rfl
@[simp] theorem pi_real : (Transc.pi : ℝ) = Real.pi := rfl
@[simp] theorem max2_real (x y : ℝ) : Transc.max2 x y = max x y := rfl
@[simp] theorem ltb_real (a b : ℝ) : Transc.ltb a b = true ↔ a < b := decide_eq_true_iff
@[simp] theorem leb_real (a b : ℝ) : Transc.leb a b = true ↔ a ≤ b := decide_eq_true_iff
@[simp] theorem eqb_real (a b : ℝ) : Transc.eqb a b = true ↔ a = b := decide_eq_true_iff
@[simp] theorem gtb_real (a b : ℝ) : Transc.gtb a b = true ↔ b < a := ltb_real b a
@[simp] theorem geb_real (a b : ℝ) : Transc.geb a b = true ↔ b ≤ a := leb_real b a

/-- the comparisons are `decide`, so `Bool.cond_decide` turns a translated `bif` into an `if` -/
theorem gtb_decide (a b : ℝ) : Transc.gtb a b = decide (b < a) := rfl
theorem geb_decide (a b : ℝ) : Transc.geb a b = decide (b ≤ a) := rfl
theorem neb_decide (a b : ℝ) : Transc.neb a b = decide (a ≠ b) := (decide_not ..).symm
@[simp] theorem neb_real (a b : ℝ) : Transc.neb a b = true ↔ a ≠ b := by
  rw [neb_decide, decide_eq_true_iff]

/-- the power of ten stays a natural number for `Nat.reducePow`: `lit 67 2` becomes `67 / 100` -/
theorem lit_eq_div (m e : ℕ) : (Transc.lit m e : ℝ) = (m : ℝ) / ((10 ^ e : ℕ) : ℝ) := by
  rw [lit_real, Nat.cast_pow, Nat.cast_ofNat]

attribute [real_scalar] lit_eq_div npow_real rpow_real exp_real log_real log10_real sqrt_real sin_real
  gamma_real pi_real max2_real gtb_decide geb_decide neb_decide Bool.cond_decide Nat.cast_ofNat
-- tried first: a whole-number constant `lit m 0` is `m` in one step, and `Nat.cast_ofNat` is not tried on 0 and 1
-- (where its side condition fails only after a long instance search)
attribute [real_scalar high] lit_exp_zero Nat.cast_one Nat.cast_zero
attribute [real_scalar_proc] Nat.reducePow

/-- the `if expc == 0: return 0.0` branch of a translated function is dead at the reals -/
theorem eqb_exp_lit_zero (x : ℝ) : Transc.eqb (Real.exp x) (Transc.lit 0 0 : ℝ) = false :=
  decide_eq_false (by rw [lit_real, Nat.cast_zero, zero_div]; exact Real.exp_ne_zero x)

end FF
