/- The peak-valley filter ignores samples inserted on a monotone stretch and repeated samples, and what it
returns is the history with such samples taken out (`refines_pv`).  Core Lean only. -/
import FFVerif.Lemmas.Zig
namespace FF

/-- `v` lies in the closed interval spanned by `a` and `b` -/
def Between (a v b : Int) : Prop := (a ≤ v ∧ v ≤ b) ∨ (b ≤ v ∧ v ≤ a)

theorem pvGo_insert_head (k : Bool) (a v b : Int) (S : List Int) (h : Between a v b) :
    pvGo k a (v :: b :: S) = pvGo k a (b :: S) := by
  rw [pvGo]
  have : ¬ ((a < v ∧ v > b) ∨ (a > v ∧ v < b)) := by unfold Between at h; omega
  rw [if_neg this]

theorem pvGo_insert (k : Bool) (p a v b : Int) (S : List Int) (h : Between a v b) :
    pvGo k p (a :: v :: b :: S) = pvGo k p (a :: b :: S) := by
  by_cases hva : v = a
  · subst hva; rw [pvGo, if_neg (by omega)]
  · -- `v` and `b` lie on the same side of `a`, so `a` is kept in both records or in neither
    rw [pvGo, pvGo.eq_def k p (a :: b :: S)]
    simp only []
    rcases h with ⟨h1, h2⟩ | ⟨h1, h2⟩
    · have hav : a < v := by omega
      have hab : a < b := by omega
      by_cases hc : p > a
      · rw [if_pos (Or.inr ⟨hc, hav⟩), if_pos (Or.inr ⟨hc, hab⟩), pvGo_insert_head k a v b S (Or.inl ⟨h1, h2⟩)]
      · rw [if_neg (by omega), if_neg (by omega), pvGo, if_neg (by omega)]
    · have hav : a > v := by omega
      have hab : a > b := by omega
      by_cases hc : p < a
      · rw [if_pos (Or.inl ⟨hc, hav⟩), if_pos (Or.inl ⟨hc, hab⟩), pvGo_insert_head k a v b S (Or.inr ⟨h1, h2⟩)]
      · rw [if_neg (by omega), if_neg (by omega), pvGo, if_neg (by omega)]

/-- both records go on with the same point after `x`, so `x` is kept in both or in neither -/
theorem pvGo_cons_congr (k : Bool) (x y : Int) {T T' : List Int}
    (h : ∀ p, pvGo k p (y :: T) = pvGo k p (y :: T')) (p : Int) :
    pvGo k p (x :: y :: T) = pvGo k p (x :: y :: T') := by
  simp only [pvGo, h]

/-- what the loop does from `c` on, whatever it kept last, it does after any samples before `c` -/
theorem pvGo_splice (k : Bool) (P : List Int) (c : Int) (T T' : List Int)
    (h : ∀ p, pvGo k p (c :: T) = pvGo k p (c :: T')) :
    ∀ p, pvGo k p (P ++ c :: T) = pvGo k p (P ++ c :: T') := by
  induction P with
  | nil => exact h
  | cons x P ih =>
    cases P with
    | nil => exact pvGo_cons_congr k x c ih
    | cons y P => exact pvGo_cons_congr k x y ih

/-- one refinement step: a sample inserted within the closed interval of two consecutive samples
(this includes repeating a sample) -/
theorem pv_insert (k : Bool) (P : List Int) (a v b : Int) (S : List Int) (h : Between a v b) :
    pv k (P ++ a :: v :: b :: S) = pv k (P ++ a :: b :: S) := by
  cases P with
  | nil => simp only [List.nil_append, pv, pvGo_insert_head k a v b S h]
  | cons x P => simp only [List.cons_append, pv, pvGo_splice k P a _ _ (pvGo_insert k · a v b S h) x]

/-- repeating the first sample, when another follows -/
theorem pv_dup_head (k : Bool) (M : Int) (L : List Int) (hL : L ≠ []) : pv k (M :: M :: L) = pv k (M :: L) := by
  obtain ⟨c, S, rfl⟩ := List.exists_cons_of_ne_nil hL
  exact pv_insert k [] M M c S (by unfold Between; omega)

/-- repeating the last sample, when another precedes -/
theorem pv_dup_last (k : Bool) (a : Int) (L : List Int) (M : Int) :
    pv k (a :: (L ++ [M, M])) = pv k (a :: (L ++ [M])) := by
  have hb : ∀ c : Int, Between c M M := fun c => by unfold Between; omega
  rcases List.eq_nil_or_concat L with rfl | ⟨L', c, rfl⟩
  · exact pv_insert k [] a M M [] (hb a)
  · simpa using pv_insert k (a :: L') c M M [] (hb c)

/-- `h'` is obtained from `h` by any number of insertions on monotone stretches / repetitions -/
inductive Refines : List Int → List Int → Prop
  | refl (h) : Refines h h
  | step (h P a v b S) : Between a v b → Refines h (P ++ a :: b :: S) → Refines h (P ++ a :: v :: b :: S)

theorem pv_refines (k : Bool) {h h' : List Int} (r : Refines h h') : pv k h' = pv k h := by
  induction r with
  | refl => rfl
  | step P a v b S hb _ ih => rw [pv_insert k P a v b S hb, ih]

/-- a refinement has the same values and more, all within the old extremes (for the default level grid of
level crossing, which depends on the overall minimum and maximum, and for the extremes of the filter's output) -/
theorem refines_mem {h h' : List Int} (r : Refines h h') :
    (∀ x ∈ h, x ∈ h') ∧ (∀ x ∈ h', listMin h ≤ x ∧ x ≤ listMax h) := by
  induction r with
  | refl => exact ⟨fun x hx => hx, fun x hx => ⟨listMin_le hx, le_listMax hx⟩⟩
  | step P a v b S hb _ ih =>
    obtain ⟨i1, i2⟩ := ih
    have e : ∀ x, x ∈ P ++ a :: v :: b :: S ↔ x = v ∨ x ∈ P ++ a :: b :: S := fun x => by
      rw [List.append_cons P a, List.append_cons P a (b :: S)]
      exact List.perm_middle.mem_iff.trans List.mem_cons
    refine ⟨fun x hx => (e x).mpr (Or.inr (i1 x hx)), fun x hx => ?_⟩
    rcases (e x).mp hx with rfl | hx
    · have := i2 a (by simp)
      have := i2 b (by simp)
      unfold Between at hb; omega
    · exact i2 x hx

theorem refines_extremes {h h' : List Int} (r : Refines h h') (hne : h ≠ []) :
    listMin h' = listMin h ∧ listMax h' = listMax h := by
  obtain ⟨m1, m2⟩ := refines_mem r
  have hne' : h' ≠ [] := by
    intro e
    have := m1 _ (listMin_mem h hne)
    rw [e] at this; cases this
  constructor
  · have a1 := (m2 _ (listMin_mem h' hne')).1
    have a2 := listMin_le (m1 _ (listMin_mem h hne))
    omega
  · have a1 := (m2 _ (listMax_mem h' hne')).2
    have a2 := le_listMax (m1 _ (listMax_mem h hne))
    omega

theorem Refines.trans {A B C : List Int} (r1 : Refines A B) (r2 : Refines B C) : Refines A C := by
  induction r2 with
  | refl => exact r1
  | step P a v b S hb _ ih => exact Refines.step _ P a v b S hb ih

theorem Refines.prepend {A A' : List Int} (r : Refines A A') (P : List Int) : Refines (P ++ A) (P ++ A') := by
  induction r with
  | refl => exact Refines.refl _
  | step P' a v b S hb _ ih =>
    have := Refines.step (P ++ A) (P ++ P') a v b S hb (by simpa using ih)
    simpa using this

theorem Refines.append {A A' : List Int} (r : Refines A A') (T : List Int) : Refines (A ++ T) (A' ++ T) := by
  induction r with
  | refl => exact Refines.refl _
  | step P' a v b S hb _ ih =>
    have := Refines.step (A ++ T) P' a v b (S ++ T) hb (by simpa using ih)
    simpa using this

theorem Refines.head {A A' : List Int} (r : Refines A A') : A'.head? = A.head? := by
  induction r with
  | refl => rfl
  | step P a v b S hb _ ih => rw [← ih]; cases P <;> simp

theorem Refines.getLast {A A' : List Int} (r : Refines A A') : A'.getLast? = A.getLast? := by
  induction r with
  | refl => rfl
  | step P a v b S hb _ ih =>
    rw [← ih]
    simp [List.getLast?_append, List.getLast?_cons_cons]

theorem refines_pvGo (l : List Int) (p : Int) : Refines (p :: pvGo true p l) (p :: l) := by
  fun_induction pvGo true p l with
  | case1 => exact .refl _
  | case2 p last => exact .refl _
  | case3 p last hk => exact absurd rfl hk
  | case4 p cur next rest hc ih => exact ih.prepend [p]
  | case5 p cur next rest hc ih => exact .step _ [] p cur next rest (by unfold Between; omega) ih

theorem refines_pv (A : List Int) : Refines (pv true A) A := by
  cases A with
  | nil => exact Refines.refl _
  | cons x rest => simpa [pv] using refines_pvGo rest x

/-- histories glued at a shared sample `M`: the filter may be applied to each part first -/
theorem pv_glue {a M : Int} {A B P Q : List Int} (eA : pv true (a :: (A ++ [M])) = a :: (P ++ [M]))
    (eB : pv true (M :: B) = M :: Q) : pv true (a :: (A ++ M :: B)) = pv true (a :: (P ++ M :: Q)) := by
  have rA := (eA ▸ refines_pv (a :: (A ++ [M]))).append B
  have rB := (eB ▸ refines_pv (M :: B)).prepend (a :: P)
  exact pv_refines true (rB.trans (by simpa using rA))

end FF
