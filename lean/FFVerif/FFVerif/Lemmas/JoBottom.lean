/- `peaksGo` (the model of the Rychlik and Johannesson walks, over the reversal sequence) and
`peaksCtx` (the specification, over the de-plateaued history) visit the same peaks, and at each the
left-hand scans find the same minimum: the scan does not see the samples between two reversals.
Core Lean only. -/
import FFVerif.Lemmas.PeakSpec
import FFVerif.Lemmas.Census
namespace FF
open C06

def ctxKey (right : Int → List Int → List Int) (p : List Int × Int × List Int) : Int × Int × List Int :=
  (sm p.2.1 p.1, p.2.1, right p.2.1 p.2.2)

/-- simultaneous walk over the record (at `b`, previous sample `a`) and over its reversal sequence
(previous kept reversal `a'`).  Between `a'` and `a` the record is monotone; to a scan the record
before `a` looks like the reversals before `a`, since a sample on a monotone stretch is invisible
(`sm_between`). -/
theorem peaksCtx_sync (rest : List Int) (a b a' : Int) (lD lR : List Int) (h : NoRep (a :: b :: rest))
    (s1 : a < b → a' ≤ a) (s2 : b < a → a ≤ a') (rel : ∀ M, sm M (a :: lD) = sm M (a :: a' :: lR)) :
    (peaksCtx (a' :: lR) (revTail a (b :: rest))).map (ctxKey fun _ r => r) =
      (peaksCtx (a :: lD) (b :: rest)).map (ctxKey revTail) := by
  induction rest generalizing a b a' lD lR with
  | nil => rfl
  | cons c rest ih =>
    obtain ⟨n, t, e, h1, h2⟩ := revTail_head rest b c h.2
    have hab : a ≠ b := h.1
    have hbc : b ≠ c := h.2.1
    have rel' : ∀ M, sm M (b :: a :: lD) = sm M (b :: a' :: lR) := fun M =>
      (sm_cons_congr b (rel M)).trans (sm_between ((Int.lt_or_gt_of_ne hab).imp
        (fun g => ⟨s1 g, Int.le_of_lt g⟩) fun g => ⟨Int.le_of_lt g, s2 g⟩) lR M)
    by_cases hk : (a < b ∧ b > c) ∨ (a > b ∧ b < c)
    · -- `b` is a reversal: both walks step
      have ih := ih b c b (a :: lD) (a' :: lR) h.2 (fun _ => Int.le_refl _) (fun _ => Int.le_refl _)
        fun M => (rel' M).trans (sm_dup b _ M).symm
      rw [e] at ih
      rw [revTail_kept rest hk, e, peaksCtx, peaksCtx, List.map_append, List.map_append, ih]
      congr 1
      rcases hk with ⟨g1, g2⟩ | ⟨g1, g2⟩
      · -- a peak, seen by both walks with the same scan to its left
        have ha' : a' < b := Int.lt_of_le_of_lt (s1 g1) g1
        have hl : sm b (a' :: lR) = sm b (a :: lD) := by
          rw [rel b, sm_cons_lt b a _ g1, Int.min_eq_right (Int.le_trans (sm_head_le b a' lR ha') (s1 g1))]
        rw [if_pos ⟨ha', h1 g2⟩, if_pos ⟨g1, g2⟩]
        simp only [List.map_cons, List.map_nil, ctxKey, hl, e]
      · rw [if_neg (fun hp => Int.lt_irrefl _ (Int.lt_trans (Int.lt_of_lt_of_le g1 (s2 g1)) hp.1)),
          if_neg (fun hp => Int.lt_asymm g1 hp.1)]
        rfl
    · -- `b` is not a reversal: only the walk over the record steps
      have mono := goes_on hk hab hbc
      have ih := ih b c a' (a :: lD) lR h.2
        (fun g => by rcases mono with m | m; exact Int.le_trans (s1 m.1) (Int.le_of_lt m.1); omega)
        (fun g => by rcases mono with m | m; omega; exact Int.le_trans (Int.le_of_lt m.2) (s2 m.2)) rel'
      rw [revTail_skip rest hk, ih, peaksCtx, if_neg (fun hp => by omega)]; rfl

theorem peaksCtx_pv (h : List Int) :
    (peaksCtx [] (pv true h)).map (ctxKey fun _ r => r) = (peaksOf h).map (ctxKey revTail) := by
  unfold peaksOf
  rw [pv_true_eq_reversals]
  match h with
  | [] => rfl
  | [x] => rfl
  | x :: y :: rest =>
    obtain ⟨t, ht, hn, hr⟩ := reversals_dedup x y rest
    rw [hr, ht]
    match t, hn with
    | [], _ => rfl
    | b :: t', hn =>
      obtain ⟨n, tl, e, _, _⟩ := revTail_head t' x b hn
      have key := peaksCtx_sync t' x b x [] [] hn (fun _ => Int.le_refl _) (fun _ => Int.le_refl _)
        fun M => (sm_dup x [] M).symm
      rw [e] at key
      rw [peaksCtx, e, peaksCtx]
      exact key

/-- zipped with itself, a list pairs equal things -/
theorem mem_zip_of_map_eq {α β γ : Type} (f : α → γ) (g : β → γ) (l1 : List α) (l2 : List β)
    (h : l1.map f = l2.map g) : ∀ p ∈ l1.zip l2, f p.1 = g p.2 := by
  intro p hp
  have : (f p.1, g p.2) ∈ (l1.map f).zip (l2.map g) := by
    rw [List.zip_map]; exact List.mem_map_of_mem (f := Prod.map f g) hp
  rw [h, List.zip_map'] at this
  obtain ⟨a, _, e⟩ := List.mem_map.mp this
  exact (congrArg Prod.fst e).symm.trans (congrArg Prod.snd e)

theorem peaks_zip (h : List Int) : ∀ pp ∈ (peaksOf h).zip (peaksCtx [] (pv true h)),
    ∃ lD M rD q l n r, pp = ((lD, M, rD), (q :: l, M, n :: r)) ∧ q < M ∧ n < M ∧
      sm M lD = sm M (q :: l) ∧ revTail M rD = n :: r := by
  rintro ⟨⟨lD, M, rD⟩, lR, M', rR⟩ hpp
  obtain ⟨k1, k2, k3⟩ : sm M lD = sm M' lR ∧ M = M' ∧ revTail M rD = rR := by
    simpa only [ctxKey, Prod.mk.injEq] using mem_zip_of_map_eq _ _ _ _ (peaksCtx_pv h).symm _ hpp
  subst k2
  obtain ⟨q, l, n, r, rfl, rfl, hq, hn⟩ := (peaksCtx_mem _ _ _ _ _ (List.of_mem_zip hpp).2).1
  exact ⟨lD, M, rD, q, l, n, r, rfl, hq, hn, k1, k3⟩

theorem johannesson_eq_map (h : List Int) :
    johannesson h = (peaksCtx [] (pv true h)).map fun p => ⟨scanMin p.2.1 p.1, p.2.1, false⟩ := by
  unfold johannesson; rw [peaksGo_eq_filterMap]; exact congrFun List.filterMap_eq_map _

theorem rychlik_eq_map (h : List Int) : rychlik h =
    (peaksCtx [] (pv true h)).map fun p => ⟨max (scanMin p.2.1 p.1) (scanMinLe p.2.1 p.2.2), p.2.1, false⟩ := by
  unfold rychlik; rw [peaksGo_eq_filterMap]; exact congrFun List.filterMap_eq_map _

theorem tops_of_map (g : List Int × Int × List Int → Cyc) (hb : ∀ p, (g p).b = p.2.1)
    (hw : ∀ p, (g p).half = false) (h : List Int) : topsOK h ((peaksCtx [] (pv true h)).map g) = true := by
  simp only [topsOK, Bool.and_eq_true, beq_iff_eq, List.all_eq_true, Bool.not_eq_true', List.mem_map]
  refine ⟨?_, fun c ⟨p, _, e⟩ => e ▸ hw p⟩
  have := congrArg (List.map (·.2.1)) (peaksCtx_pv h)
  simpa only [List.map_map, Function.comp_def, ctxKey, hb] using this

/-- every Johannesson bottom is the lowest value since the history was last at or above the top
(no uniqueness of the top is needed) -/
theorem johannesson_bottoms_all (h : List Int) :
    ((peaksOf h).zip (johannesson h)).all (fun pc => pc.2.a == sideMin pc.1.2.1 pc.1.1) = true := by
  rw [johannesson_eq_map, List.zip_map_right, List.all_map, List.all_eq_true]
  intro pp hpp
  obtain ⟨lD, M, rD, q, l, n, r, rfl, hq, _, k1, _⟩ := peaks_zip h pp hpp
  show (scanMin M (q :: l) == sideMin M lD) = true
  rw [scanMin_eq_sm _ q l hq, sideMin_eq_sm, k1, beq_self_eq_true]

/-- C06, Johannesson bottoms on the raw history -/
theorem C06_johannesson_bottoms (h : List Int) : C06.joBottomsOK h (johannesson h) = true := by
  have := johannesson_bottoms_all h
  simp only [joBottomsOK, List.all_eq_true, Bool.or_eq_true] at this ⊢
  exact fun pc hpc => Or.inr (this pc hpc)

end FF
