/- Level crossing: off the levels a reversal touches, the model's output is the specified event list
(`lcWindow`, `lcGo_filter`); the counts are read off that list.  Core Lean only. -/
import FFVerif.Props.C05
import FFVerif.Lemmas.Table
namespace FF
open C05

theorem itblAdd_eq (k : Int) (t : List (Int × Nat)) : itblAdd k t = accAdd k 1 t := by
  induction t with
  | nil => rfl
  | cons a t ih => simp only [itblAdd, accAdd, ih]

theorem itable_eq (evs : List Int) : itable evs = accAll (evs.map (·, 1)) [] := by
  simp only [itable, accAll, List.foldl_map, itblAdd_eq]

theorem cnt_events (evs : List Int) (k : Int) : cnt (evs.map (·, 1)) k = evs.count k := by
  induction evs with
  | nil => rfl
  | cons e evs ih =>
    rw [List.map_cons, cnt_cons, ih, List.count_cons, Nat.add_comm]
    simp only [beq_iff_eq]

/-- in a sorted table the first entry under a key is the only one -/
theorem lookup_eq_cnt (t : List (Int × Nat)) (hs : KeysSorted t) (k : Int) : lookup t k = cnt t k := by
  unfold lookup
  cases h : t.find? (fun p => p.1 == k) with
  | none => exact (cnt_of_not_mem t k fun p hp e => List.find?_eq_none.mp h p hp (beq_iff_eq.mpr e)).symm
  | some p =>
    have hk : p.1 = k := eq_of_beq (List.find?_some (p := fun p : Int × Nat => p.1 == k) h)
    exact (hk ▸ cnt_of_mem t hs p (List.mem_of_find?_eq_some h)).symm

theorem itable_sorted (evs : List Int) : KeysSorted (itable evs) := itable_eq evs ▸ accAll_sorted _ .nil

theorem lookup_itable (evs : List Int) (k : Int) : lookup (itable evs) k = evs.count k := by
  rw [lookup_eq_cnt _ (itable_sorted evs), itable_eq, cnt_accAll, cnt_events]; exact Nat.zero_add _

theorem itable_keys (evs : List Int) : ∀ p ∈ itable evs, p.1 ∈ evs := by
  intro p hp
  have : p.1 ∈ (accAll (evs.map (·, 1)) []).map (·.1) := itable_eq evs ▸ List.mem_map_of_mem hp
  simpa [mem_keys_accAll] using this

theorem ikeysAscending_iff (t : List (Int × Nat)) : ikeysAscending t = true ↔ KeysSorted t := by
  induction t with
  | nil => exact ⟨fun _ => .nil, fun _ => rfl⟩
  | cons a t ih =>
    cases t with
    | nil => exact ⟨fun _ => List.pairwise_singleton _ _, fun _ => rfl⟩
    | cons b t => rw [ikeysAscending, Bool.and_eq_true, decide_eq_true_eq, ih, keysSorted_cons_cons]

/-- `insertLevel` takes the branches of `itblAdd` -/
theorem keys_itblAdd (x : Int) (t : List (Int × Nat)) : (itblAdd x t).map (·.1) = insertLevel x (t.map (·.1)) := by
  fun_induction itblAdd x t with
  | case1 => rfl
  | case2 k' u' t h => exact (if_pos h).symm
  | case3 u' t h => exact ((if_neg h).trans (if_pos rfl)).symm
  | case4 k' u' t h1 h2 ih => exact (congrArg (k' :: ·) ih).trans ((if_neg h1).trans (if_neg h2)).symm

theorem sortLevels_eq (l : List Int) : sortLevels l = (itable l).map (·.1) := by
  unfold sortLevels itable
  exact List.foldl_hom (List.map (·.1)) (g₂ := fun acc x => insertLevel x acc) (init := [])
    fun t x => (keys_itblAdd x t).symm

theorem sortLevels_sorted (l : List Int) : (sortLevels l).Pairwise (· < ·) :=
  sortLevels_eq l ▸ List.pairwise_map.mpr (itable_sorted l)

theorem sortLevels_nodup (l : List Int) : (sortLevels l).Nodup := (sortLevels_sorted l).imp Int.ne_of_lt

theorem mem_sortLevels (l : List Int) (y : Int) : y ∈ sortLevels l ↔ y ∈ l := by
  rw [sortLevels_eq, itable_eq, mem_keys_accAll]; simp

/-- a closed end of an interval is open for a point that is not the end -/
theorem decide_le_eq_lt {x y : Int} (h : x ≠ y) : decide (x ≤ y) = decide (x < y) :=
  decide_eq_decide.mpr ⟨fun hle => Int.lt_iff_le_and_ne.mpr ⟨hle, h⟩, Int.le_of_lt⟩

/-- off the end points the window of `lcSegment` is the open interval, with the direction test of `segEvents` -/
theorem lcWindow (first : Bool) (ref a b l : Int) (ha : l ≠ a) (hb : l ≠ b) :
    ((if first then decide (min a b ≤ l) else decide (min a b < l)) && decide (l ≤ max a b) &&
      (if a ≤ b then decide (l ≥ ref) else decide (l < ref))) =
    if a < b then (decide (a < l) && decide (l < b) && decide (l ≥ ref))
    else (decide (b < l) && decide (l < a) && decide (l < ref)) := by
  rcases Int.lt_trichotomy a b with hab | rfl | hab
  · have h := Int.le_of_lt hab
    rw [Int.min_eq_left h, Int.max_eq_right h, if_pos h, if_pos hab, decide_le_eq_lt hb,
      decide_le_eq_lt (Ne.symm ha), ite_self]
  · -- a flat segment: both windows are empty
    have : (decide (a < l) && decide (l < a)) = false :=
      (Bool.decide_and ..).symm.trans (decide_eq_false fun h => Int.lt_asymm h.1 h.2)
    rw [Int.min_self, Int.max_self, decide_le_eq_lt hb, decide_le_eq_lt (Ne.symm ha), ite_self,
      if_neg (Int.lt_irrefl a), this, Bool.false_and, Bool.false_and]
  · have h := Int.le_of_lt hab
    rw [Int.min_eq_right h, Int.max_eq_left h, if_neg (Int.not_le.mpr hab), if_neg (Int.lt_asymm hab),
      decide_le_eq_lt ha, decide_le_eq_lt (Ne.symm hb), ite_self]

theorem segEvents_false (ref : Int) (L : List Int) (a b : Int) :
    segEvents false ref L a b = L.filter fun l =>
      if a < b then (decide (a < l) && decide (l < b) && decide (l ≥ ref))
      else (decide (b < l) && decide (l < a) && decide (l < ref)) := by
  unfold segEvents; split <;> simp

theorem lcGo_filter (ref : Int) (L U : List Int) (first : Bool) (R : List Int) (hU : ∀ x ∈ R, x ∈ U) :
    (lcGo ref L first R).filter (fun l => !U.contains l)
      = eventsSpec false ref (L.filter (fun l => !U.contains l)) R := by
  induction R generalizing first with
  | nil => rfl
  | cons a R ih =>
    cases R with
    | nil => rfl
    | cons b rest =>
      rw [lcGo, eventsSpec, List.filter_append, ih false fun x hx => hU x (List.mem_cons_of_mem _ hx)]
      congr 1
      rw [segEvents_false, lcSegment, List.filter_filter, List.filter_filter]
      refine List.filter_congr fun l _ => ?_
      cases hlu : U.contains l
      · have hne : ∀ x ∈ U, l ≠ x := fun x hx e => by rw [List.contains_iff_mem.mpr (e ▸ hx)] at hlu; cases hlu
        rw [lcWindow first ref a b l (hne a (hU a List.mem_cons_self))
          (hne b (hU b (List.mem_cons_of_mem _ List.mem_cons_self))), Bool.and_comm]
      · rw [Bool.not_true, Bool.false_and, Bool.and_false]

theorem mem_lcGo (ref : Int) (L : List Int) (first : Bool) (R : List Int) (x : Int)
    (h : x ∈ lcGo ref L first R) : x ∈ L := by
  fun_induction lcGo ref L first R with
  | case1 first a b rest ih => exact (List.mem_append.mp h).elim (fun h => (List.mem_filter.mp h).1) ih
  | case2 first R hne => cases h

theorem segEvents_count (ref : Int) (L : List Int) (hn : L.Nodup) (a b l : Int) (hl : l ∈ L) :
    (segEvents false ref L a b).count l =
      if ref ≤ l then (if a < l ∧ l < b then 1 else 0) else (if b < l ∧ l < a then 1 else 0) := by
  have count : ∀ P : Int → Bool, (L.filter P).count l = if P l then 1 else 0 := fun P => by
    rw [(hn.sublist List.filter_sublist).count]; simp only [List.mem_filter, hl, true_and]
  unfold segEvents
  split
  · rename_i hab
    rw [count]
    simp only [Bool.and_eq_true, decide_eq_true_eq, ge_iff_le]
    by_cases hr : ref ≤ l
    · simp only [hr, and_true, if_true]
    · rw [if_neg hr, if_neg fun h => hr h.2, if_neg fun h => Int.lt_asymm hab (Int.lt_trans h.1 h.2)]
  · rename_i hab
    rw [if_neg Bool.false_ne_true, count]
    simp only [Bool.and_eq_true, decide_eq_true_eq]
    by_cases hr : ref ≤ l
    · rw [if_pos hr, if_neg fun h => Int.not_le.mpr h.2 hr, if_neg fun h => hab (Int.lt_trans h.1 h.2)]
    · simp only [hr, Int.not_le.mp hr, and_true, if_false]

theorem eventsSpec_count (ref : Int) (L : List Int) (hn : L.Nodup) (l : Int) (hl : l ∈ L) (R : List Int) :
    (eventsSpec false ref L R).count l = if ref ≤ l then up R l else down R l := by
  induction R with
  | nil => exact (ite_self 0).symm
  | cons a R ih =>
    cases R with
    | nil => exact (ite_self 0).symm
    | cons b rest =>
      rw [eventsSpec, List.count_append, ih, up, down, segEvents_count ref L hn a b l hl]
      split <;> rfl

end FF
