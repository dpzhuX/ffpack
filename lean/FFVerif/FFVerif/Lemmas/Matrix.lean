/- The accumulation loop of countingRstToCountingMatrix builds the from-to matrix, and sums over
that matrix are sums over the cycles.  Core Lean only. -/
import FFVerif.Props.C07
import FFVerif.Lemmas.Level
namespace FF

/-- the matrix the property describes: entry (a, b) = total count from `a` to `b` -/
def specMatrix (cs : List Cyc) (keys : List Int) : List (List Nat) :=
  keys.map (fun a => keys.map (fun b => fromTo cs a b))

theorem modify_indexOf_map {β : Type} (keys : List Int) (hn : keys.Nodup) (x : Int) (f : Int → β) (g : β → β) :
    (keys.map f).modify (indexOf keys x) g = keys.map (fun a => if a = x then g (f a) else f a) := by
  induction keys with
  | nil => rfl
  | cons k keys ih =>
    have hn' := List.nodup_cons.mp hn
    rw [indexOf, List.findIdx_cons]
    by_cases hk : k = x
    · subst hk
      rw [beq_self_eq_true, cond_true, List.map_cons, List.modify_zero_cons, List.map_cons, if_pos rfl]
      congr 1
      exact List.map_congr_left fun a ha => (if_neg fun (e : a = k) => hn'.1 (e ▸ ha)).symm
    · rw [show (k == x) = false from beq_false_of_ne hk, cond_false, List.map_cons, List.modify_succ_cons,
        List.map_cons, if_neg hk]
      exact congrArg _ (ih hn'.2)

theorem fromTo_cons (c : Cyc) (cs : List Cyc) (a b : Int) :
    fromTo (c :: cs) a b = (if c.a = a ∧ c.b = b then c.units else 0) + fromTo cs a b := by
  unfold fromTo
  by_cases h : c.a = a ∧ c.b = b
  · simp [h.1, h.2]
  · rw [if_neg h, List.filter_cons_of_neg (by simpa using h), Nat.zero_add]

theorem fromTo_append (cs cs' : List Cyc) (a b : Int) : fromTo (cs ++ cs') a b = fromTo cs a b + fromTo cs' a b := by
  simp [fromTo, List.filter_append]

theorem matAdd_spec (keys : List Int) (hn : keys.Nodup) (done : List Cyc) (c : Cyc) :
    matAdd (indexOf keys c.a) (indexOf keys c.b) c.units (specMatrix done keys) = specMatrix (done ++ [c]) keys := by
  rw [matAdd, specMatrix, modify_indexOf_map keys hn]
  refine List.map_congr_left fun a _ => ?_
  split
  · rename_i ha
    rw [modify_indexOf_map keys hn]
    refine List.map_congr_left fun b _ => ?_
    rw [fromTo_append, fromTo_cons, ha]
    split
    · rename_i hb; rw [if_pos ⟨rfl, hb.symm⟩]; rfl
    · rename_i hb; rw [if_neg fun h => hb h.2.symm]; rfl
  · rename_i ha
    refine List.map_congr_left fun b _ => ?_
    rw [fromTo_append, fromTo_cons, if_neg fun h => ha h.1.symm]; rfl

theorem matrixKeys_mem (cs : List Cyc) : ∀ c ∈ cs, c.a ∈ matrixKeys cs ∧ c.b ∈ matrixKeys cs := by
  intro c hc
  unfold matrixKeys
  simp only [mem_sortLevels, List.mem_flatMap]
  exact ⟨⟨c, hc, List.mem_cons_self⟩, ⟨c, hc, List.mem_cons_of_mem _ List.mem_cons_self⟩⟩

theorem matrixKeys_nodup (cs : List Cyc) : (matrixKeys cs).Nodup := sortLevels_nodup _

theorem toMatrix_eq_spec (cs : List Cyc) : toMatrix cs = (specMatrix cs (matrixKeys cs), matrixKeys cs) := by
  have loop : ∀ rest done : List Cyc,
      rest.foldl (fun M c => matAdd (indexOf (matrixKeys cs) c.a) (indexOf (matrixKeys cs) c.b) c.units M)
        (specMatrix done (matrixKeys cs)) = specMatrix (done ++ rest) (matrixKeys cs) := by
    intro rest
    induction rest with
    | nil => intro done; rw [List.append_nil]; rfl
    | cons c rest ih =>
      intro done
      rw [List.foldl_cons, matAdd_spec _ (matrixKeys_nodup cs), ih, List.append_assoc]; rfl
  have hz : (matrixKeys cs).map (fun _ => (matrixKeys cs).map (fun _ => (0 : Nat))) = specMatrix [] (matrixKeys cs) := rfl
  rw [toMatrix, hz, loop]; rfl


theorem sum_map_add {α} (l : List α) (f g : α → Nat) :
    (l.map (fun x => f x + g x)).sum = (l.map f).sum + (l.map g).sum := by
  induction l with
  | nil => rfl
  | cons x l ih => simp only [List.map_cons, List.sum_cons, ih]; omega

theorem sum_map_zero {α} (l : List α) : (l.map (fun _ => (0 : Nat))).sum = 0 := by
  rw [List.map_const', List.sum_replicate_nat, Nat.mul_zero]

/-- a sum with at most one non-zero term -/
theorem sum_single {L : List Int} (hn : L.Nodup) {x : Int} (hx : x ∈ L) (g : Int → Nat)
    (h0 : ∀ a ∈ L, a ≠ x → g a = 0) : (L.map g).sum = g x := by
  induction L with
  | nil => cases hx
  | cons y L ih =>
    have hn' := List.nodup_cons.mp hn
    rw [List.map_cons, List.sum_cons]
    rcases List.mem_cons.mp hx with rfl | hx
    · rw [List.map_congr_left (g := fun _ => 0) fun a ha => h0 a (List.mem_cons_of_mem _ ha) fun e => hn'.1 (e ▸ ha),
        sum_map_zero]; rfl
    · rw [h0 y List.mem_cons_self fun e => hn'.1 (e ▸ hx), Nat.zero_add]
      exact ih hn'.2 hx fun a ha => h0 a (List.mem_cons_of_mem _ ha)

def maskSum (keys : List Int) (m : Int → Int → Bool) (g : Int → Int → Nat) : Nat :=
  (keys.map (fun a => (keys.map (fun b => if m a b then g a b else 0)).sum)).sum

theorem maskSum_add (keys : List Int) (m : Int → Int → Bool) (g g' : Int → Int → Nat) :
    maskSum keys m (fun a b => g a b + g' a b) = maskSum keys m g + maskSum keys m g' := by
  unfold maskSum
  rw [← sum_map_add]
  congr 1
  refine List.map_congr_left fun a _ => ?_
  rw [← sum_map_add]
  congr 1
  refine List.map_congr_left fun b _ => ?_
  split <;> rfl

theorem maskSum_fromTo (keys : List Int) (hn : keys.Nodup) (m : Int → Int → Bool) (cs : List Cyc)
    (h : ∀ c ∈ cs, c.a ∈ keys ∧ c.b ∈ keys) :
    maskSum keys m (fun a b => fromTo cs a b) = ((cs.filter (fun c => m c.a c.b)).map Cyc.units).sum := by
  induction cs with
  | nil => simp only [maskSum, fromTo, List.filter_nil, List.map_nil, List.sum_nil, ite_self, sum_map_zero]
  | cons c cs ih =>
    have hc := h c List.mem_cons_self
    -- the matrix of the one cycle `c` has a single entry, at `(c.a, c.b)`
    have one : maskSum keys m (fun a b => if c.a = a ∧ c.b = b then c.units else 0) =
        if m c.a c.b then c.units else 0 := by
      unfold maskSum
      rw [sum_single hn hc.1 _ fun a _ ha => by simp [Ne.symm ha, sum_map_zero],
        sum_single hn hc.2 _ fun b _ hb => by simp [Ne.symm hb]]
      simp
    simp only [fromTo_cons]
    rw [maskSum_add, one, ih fun c' h' => h c' (List.mem_cons_of_mem _ h')]
    by_cases hm : m c.a c.b <;> simp [hm]

end FF
