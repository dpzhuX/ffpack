/- Load symmetries: the filter and the range-based counters commute with shifting, positive scaling and
negation; the order-based counters, level crossing and peak counting with increasing maps; tables under
range scaling.  A stack machine's lemma follows the machine's own induction: in each case its step equation at
the mapped points, the test carried over by `Sim.le_iff` / `Sim.lt_iff`, then the induction hypothesis.  Core Lean only.

Of the census only `peaksGo_eq_filterMap` is used here.  It is imported also because `fun_induction` on `implGo`,
`rpReduce`, `rpBack`, `fpGo` generates auxiliary declarations in the first module that uses it: two modules doing so
independently cannot be imported together. -/
import FFVerif.Lemmas.Census
import FFVerif.Lemmas.Table
import FFVerif.Model.Level
namespace FF

/-- `f` multiplies every range by `k > 0` (shift: k = 1; scale by c: k = c; negation: k = 1) -/
structure Sim (k : Nat) (f : Int → Int) : Prop where
  kpos : 0 < k
  rng_eq : ∀ a b, rng (f a) (f b) = k * rng a b

def Inc (f : Int → Int) : Prop := ∀ a b, a < b → f a < f b
def Anti (f : Int → Int) : Prop := ∀ a b, a < b → f a > f b

def Cyc.map (f : Int → Int) (c : Cyc) : Cyc := ⟨f c.a, f c.b, c.half⟩

theorem Inc.lt_iff {f} (h : Inc f) (a b : Int) : f a < f b ↔ a < b := by
  constructor
  · intro hlt
    refine Int.not_le.mp fun hle => ?_
    rcases Int.lt_or_eq_of_le hle with h1 | h1
    · have := h b a h1; omega
    · subst h1; omega
  · exact h a b

theorem Anti.lt_iff {f} (h : Anti f) (a b : Int) : f a < f b ↔ b < a :=
  Int.neg_lt_neg_iff.symm.trans (Inc.lt_iff (f := fun x => -f x) (fun a b hab => Int.neg_lt_neg (h a b hab)) b a)

theorem turn_map {f : Int → Int} (hm : Inc f ∨ Anti f) (a b c : Int) :
    ((f a < f b ∧ f b > f c) ∨ (f a > f b ∧ f b < f c)) ↔ ((a < b ∧ b > c) ∨ (a > b ∧ b < c)) := by
  rcases hm with h | h
  · simp only [gt_iff_lt, h.lt_iff]
  · simp only [gt_iff_lt, h.lt_iff]; exact Or.comm

theorem pvGo_map (k : Bool) (f : Int → Int) (hm : Inc f ∨ Anti f) (l : List Int) (p : Int) :
    pvGo k (f p) (l.map f) = (pvGo k p l).map f := by
  fun_induction pvGo k p l with
  | case1 => simp [pvGo]
  | case2 p last hk => simp [pvGo, hk]
  | case3 p last hk => simp [pvGo, hk]
  | case4 p cur next rest h ih =>
    simp only [List.map_cons] at ih ⊢
    rw [pvGo, if_pos ((turn_map hm _ _ _).mpr h), ih]
  | case5 p cur next rest h ih =>
    simp only [List.map_cons] at ih ⊢
    rw [pvGo, if_neg (mt (turn_map hm _ _ _).mp h), ih]

theorem pv_map (k : Bool) (f : Int → Int) (hm : Inc f ∨ Anti f) (h : List Int) :
    pv k (h.map f) = (pv k h).map f := by
  cases h with
  | nil => rfl
  | cons x rest => cases k <;> simp [pv, pvGo_map _ f hm]

theorem halves_map (f : Int → Int) : ∀ l : List Int, halves (l.map f) = (halves l).map (Cyc.map f)
  | [] | [_] => rfl
  | _ :: b :: rest => congrArg (List.cons _) (halves_map f (b :: rest))

theorem Sim.le_iff {k f} (s : Sim k f) (a b c d : Int) :
    rng (f a) (f b) ≤ rng (f c) (f d) ↔ rng a b ≤ rng c d := by
  rw [s.rng_eq, s.rng_eq]
  exact Nat.mul_le_mul_left_iff s.kpos

theorem Sim.lt_iff {k f} (s : Sim k f) (a b c d : Int) :
    rng (f a) (f b) < rng (f c) (f d) ↔ rng a b < rng c d := by
  rw [s.rng_eq, s.rng_eq]
  exact Nat.mul_lt_mul_left s.kpos

theorem implGo_map {k f} (s : Sim k f) (A B : List Int) (flag : Bool) (out : List Cyc) :
    implGo (A.map f) (B.map f) flag (out.map (Cyc.map f)) = (implGo A B flag out).map (Cyc.map f) := by
  fun_induction implGo A B flag out with
  | case1 A out a b c rest hge ih =>
    rw [List.map_append] at ih
    exact (implGo_half ((s.le_iff a b b c).mpr hge) ..).trans ih
  | case2 A flag out a b c rest hge hf ih =>
    obtain rfl : flag = false := by simpa using hf
    rw [List.map_append, List.map_append] at ih
    exact (implGo_whole ((s.le_iff a b b c).mpr hge) ..).trans ih
  | case3 A flag out a b c rest hlt ih =>
    rw [List.map_append] at ih
    exact (implGo_stay ((s.lt_iff b c a b).mpr (Nat.lt_of_not_le hlt)) ..).trans ih
  | case4 A B flag out hB =>
    rw [implGo_short _ _ _ _ (by simpa using length_le_two hB), List.map_append, ← halves_map, List.map_append]

theorem rainflow_map {k f} (s : Sim k f) (hm : Inc f ∨ Anti f) (h : List Int) :
    rainflow (h.map f) = (rainflow h).map (Cyc.map f) := by
  unfold rainflow
  rw [pv_map true f hm]
  exact implGo_map s [] (pv true h) true []

theorem simpleRange_map (f : Int → Int) (hm : Inc f ∨ Anti f) (h : List Int) :
    simpleRange (h.map f) = (simpleRange h).map (Cyc.map f) := by
  unfold simpleRange; rw [pv_map true f hm, halves_map]

theorem rpReduce_map {k f} (s : Sim k f) (st : List Int) (out : List Cyc) :
    rpReduce (st.map f) (out.map (Cyc.map f)) =
      ((rpReduce st out).1.map f, (rpReduce st out).2.map (Cyc.map f)) := by
  fun_induction rpReduce st out with
  | case1 c b a rest out hle ih =>
    rw [List.map_append] at ih
    exact (rpReduce_fire _ _ _ _ _ ((s.le_iff a b b c).mpr hle)).trans ih
  | case2 c b a rest out hgt => exact rpReduce_stay _ _ _ _ _ (mt (s.le_iff a b b c).mp hgt)
  | case3 st out hne => rw [rpReduce_short _ _ (by simpa using length_le_two hne)]

theorem rpForward_map {k f} (s : Sim k f) (st ps : List Int) (out : List Cyc) :
    rpForward (st.map f) (ps.map f) (out.map (Cyc.map f)) =
      ((rpForward st ps out).1.map f, (rpForward st ps out).2.map (Cyc.map f)) := by
  induction ps generalizing st out with
  | nil => rfl
  | cons p ps ih =>
    rw [List.map_cons, rpForward, show rpReduce (f p :: st.map f) _ = _ from rpReduce_map s (p :: st) out]
    exact ih _ _

theorem rpBack_map {k f} (s : Sim k f) (st : List Int) (out : List Cyc) :
    rpBack (st.map f) (out.map (Cyc.map f)) =
      ((rpBack st out).1.map f, (rpBack st out).2.map (Cyc.map f)) := by
  fun_induction rpBack st out with
  | case1 c b a rest out hle r ih =>
    simp only [List.map_cons]
    rw [rpBack, if_pos ((s.le_iff b c a b).mpr hle)]
    simpa [Cyc.map] using ih
  | case2 c b a rest out hgt r ih =>
    simp only [List.map_cons]
    rw [rpBack, if_neg (fun h => hgt ((s.le_iff b c a b).mp h))]
    simp only [List.map_cons] at ih
    rw [ih]
  | case3 st out hne => rw [rpBack_short _ _ (by simpa using length_le_two hne)]

theorem rangePair_map {k f} (s : Sim k f) (hm : Inc f ∨ Anti f) (h : List Int) :
    rangePair (h.map f) = (rangePair h).map (Cyc.map f) := by
  unfold rangePair rangePairFull
  rw [pv_map true f hm, show rpForward [] ((pv true h).map f) [] = _ from rpForward_map s [] _ [], rpBack_map s]

theorem fpRound_map {k f} (s : Sim k f) (l : List Int) :
    fpRound (l.map f) = (fpRound l).map (fun p => (Cyc.map f p.1, p.2.map f)) := by
  induction l with
  | nil => rfl
  | cons a l ih =>
    rcases l with _ | ⟨b, _ | ⟨c, _ | ⟨d, rest⟩⟩⟩
    · rfl
    · rfl
    · rfl
    · simp only [List.map_cons] at ih ⊢
      simp only [fpRound, ge_iff_le, s.le_iff, ih, apply_ite (Option.map _)]
      cases fpRound (b :: c :: d :: rest) <;> rfl

theorem fpGo_map {k f} (s : Sim k f) (l : List Int) (out : List Cyc) :
    fpGo (l.map f) (out.map (Cyc.map f)) = ((fpGo l out).1.map f, (fpGo l out).2.map (Cyc.map f)) := by
  fun_induction fpGo l out with
  | case1 l out cy l' heq ih =>
    rw [List.map_append] at ih
    exact (fpGo_fire _ _ (Cyc.map f cy) (l'.map f) (by rw [fpRound_map s, heq]; rfl)).trans ih
  | case2 l out heq => exact fpGo_none _ _ (by rw [fpRound_map s, heq]; rfl)

theorem fourPoint_map {k f} (s : Sim k f) (hm : Inc f ∨ Anti f) (h : List Int) :
    fourPoint (h.map f) = (fourPoint h).map (Cyc.map f) := by
  unfold fourPoint fourPointFull
  rw [pv_map true f hm]
  exact congrArg Prod.snd (fpGo_map s (pv true h) [])

theorem Inc.le_iff {f} (h : Inc f) (a b : Int) : f a ≤ f b ↔ a ≤ b := by
  have := h.lt_iff b a; omega

theorem Inc.eq_iff {f} (h : Inc f) (a b : Int) : f a = f b ↔ a = b :=
  ⟨fun e => Int.le_antisymm ((h.le_iff a b).mp (Int.le_of_eq e)) ((h.le_iff b a).mp (Int.le_of_eq e.symm)),
    fun e => e ▸ rfl⟩

theorem Inc.min_map {f} (h : Inc f) (a b : Int) : min (f a) (f b) = f (min a b) := by
  simp only [Int.min_def, h.le_iff, apply_ite f]

theorem Inc.max_map {f} (h : Inc f) (a b : Int) : max (f a) (f b) = f (max a b) := by
  simp only [Int.max_def, h.le_iff, apply_ite f]

/-- the one-sided scans: the minimum over an initial run cut off by a test that `f` respects -/
theorem scan_map {f} (h : Inc f) {q q' : Int → Bool} (hq : ∀ y, q' (f y) = q y) (x : Int) (l : List Int) :
    ((l.map f).takeWhile q').foldl min (f x) = f ((l.takeWhile q).foldl min x) := by
  rw [List.takeWhile_map, show q' ∘ f = q from funext hq, List.foldl_map]
  exact List.foldl_hom f fun a b => h.min_map a b

theorem scanMin_map {f} (h : Inc f) (m : Int) : ∀ side : List Int, scanMin (f m) (side.map f) = f (scanMin m side)
  | [] => rfl
  | [x] => by simp [scanMin, h.min_map]
  | x :: y :: rest => scan_map h (fun z => by simp [h.lt_iff]) x (y :: rest)

theorem scanMinLe_map {f} (h : Inc f) (m : Int) : ∀ side : List Int, scanMinLe (f m) (side.map f) = f (scanMinLe m side)
  | [] => rfl
  | [x] => by simp [scanMinLe, h.min_map]
  | x :: y :: rest => scan_map h (fun z => by simp [h.le_iff]) x (y :: rest)

theorem peaksCtx_map {f} (h : Inc f) (left right : List Int) :
    C06.peaksCtx (left.map f) (right.map f) =
      (C06.peaksCtx left right).map fun p => (p.1.map f, f p.2.1, p.2.2.map f) := by
  induction right generalizing left with
  | nil => rfl
  | cons cur r ih =>
    rcases r with _ | ⟨next, rest⟩
    · rfl
    · cases left with
      | nil => exact ih [cur]
      | cons p l =>
        rw [C06.peaksCtx, List.map_append, ← ih (cur :: p :: l)]
        simp only [List.map_cons, C06.peaksCtx, gt_iff_lt, h.lt_iff, apply_ite (List.map _), List.map_nil]

theorem peaksGo_map {f} (h : Inc f) (g : List Int → Int → List Int → Option Cyc)
    (hg : ∀ l m r, g (l.map f) (f m) (r.map f) = (g l m r).map (Cyc.map f)) (left right : List Int) :
    peaksGo g (left.map f) (right.map f) = (peaksGo g left right).map (Cyc.map f) := by
  rw [peaksGo_eq_filterMap, peaksGo_eq_filterMap, peaksCtx_map h, List.filterMap_map, List.map_filterMap]
  exact congrArg (List.filterMap · _) (funext fun p => hg p.1 p.2.1 p.2.2)

theorem rychlik_map {f} (h : Inc f) (hist : List Int) :
    rychlik (hist.map f) = (rychlik hist).map (Cyc.map f) := by
  unfold rychlik
  rw [pv_map true f (Or.inl h)]
  exact peaksGo_map h (fun l m r => some ⟨max (scanMin m l) (scanMinLe m r), m, false⟩)
    (by intro l m r; simp [Cyc.map, scanMin_map h, scanMinLe_map h, h.max_map]) [] (pv true hist)

theorem johannesson_map {f} (h : Inc f) (hist : List Int) :
    johannesson (hist.map f) = (johannesson hist).map (Cyc.map f) := by
  unfold johannesson
  rw [pv_map true f (Or.inl h)]
  exact peaksGo_map h (fun l m _ => some ⟨scanMin m l, m, false⟩)
    (by intro l m r; simp [Cyc.map, scanMin_map h]) [] (pv true hist)

theorem argmaxGo_map {f} (h : Inc f) (xs : List Int) (i : Nat) (m : Int) (best : Nat) :
    argmaxGo (xs.map f) i (f m) best = argmaxGo xs i m best := by
  fun_induction argmaxGo xs i m best with
  | case1 i m best => rfl
  | case2 x xs i m best hx ih =>
    simp only [List.map_cons]
    rw [argmaxGo, if_pos (h m x hx), ih]
  | case3 x xs i m best hx ih =>
    simp only [List.map_cons]
    rw [argmaxGo, if_neg (fun hh => hx ((h.lt_iff m x).mp hh)), ih]

theorem argmax_map {f} (h : Inc f) (R : List Int) : argmax (R.map f) = argmax R := by
  cases R with
  | nil => rfl
  | cons x xs => simp [argmax, argmaxGo_map h]

theorem rotateToMax_map {f} (h : Inc f) (R : List Int) : rotateToMax (R.map f) = (rotateToMax R).map f := by
  simp only [rotateToMax, argmax_map h, ← List.map_drop, ← List.map_take, ← List.map_append, pv_map true f (Or.inl h)]

theorem rainflowRepeat_map {k f} (s : Sim k f) (h : Inc f) (hist : List Int) :
    rainflowRepeat (hist.map f) = (rainflowRepeat hist).map (Cyc.map f) := by
  unfold rainflowRepeat
  rw [pv_map true f (Or.inl h), rotateToMax_map h]
  exact congrArg Prod.snd (rpForward_map s [] _ [])

theorem insertLevel_map {f} (h : Inc f) (x : Int) (l : List Int) :
    insertLevel (f x) (l.map f) = (insertLevel x l).map f := by
  induction l with
  | nil => rfl
  | cons y t ih => simp only [List.map_cons, insertLevel, h.lt_iff, h.eq_iff, ih, apply_ite (List.map f)]

theorem sortLevels_map {f} (h : Inc f) (l : List Int) : sortLevels (l.map f) = (sortLevels l).map f := by
  unfold sortLevels
  rw [List.foldl_map]
  exact List.foldl_hom (List.map f) (init := []) fun acc x => insertLevel_map h x acc

theorem lcSegment_map {f} (h : Inc f) (first : Bool) (ref : Int) (L : List Int) (a b : Int) :
    lcSegment first (f ref) (L.map f) (f a) (f b) = (lcSegment first ref L a b).map f := by
  simp only [lcSegment, h.min_map, h.max_map, List.filter_map, Function.comp_def, h.le_iff, h.lt_iff, ge_iff_le]

theorem lcGo_map {f} (h : Inc f) (ref : Int) (L : List Int) : ∀ (first : Bool) (R : List Int),
    lcGo (f ref) (L.map f) first (R.map f) = (lcGo ref L first R).map f
  | _, [] | _, [_] => rfl
  | first, a :: b :: rest => by
    rw [lcGo, List.map_append, ← lcSegment_map h, ← lcGo_map h ref L false (b :: rest)]; rfl

theorem levelCrossingSeq_map {f} (h : Inc f) (hist : List Int) (ref : Int) (levels : List Int) :
    levelCrossingSeq (hist.map f) (f ref) (levels.map f) = (levelCrossingSeq hist ref levels).map f := by
  unfold levelCrossingSeq
  rw [pv_map true f (Or.inl h), sortLevels_map h, lcGo_map h]

theorem peakGo_map {f} (h : Inc f) (ref : Int) (l : List Int) :
    peakGo (f ref) (l.map f) = (peakGo ref l).map f := by
  induction l with
  | nil => rfl
  | cons p l ih =>
    rcases l with _ | ⟨c, _ | ⟨n, rest⟩⟩
    · rfl
    · rfl
    · simp only [List.map_cons] at ih
      simp only [List.map_cons, peakGo, ih, gt_iff_lt, ge_iff_le, h.lt_iff, h.le_iff, apply_ite (List.map f)]

theorem peakSeq_map {f} (h : Inc f) (hist : List Int) (ref : Int) :
    peakSeq (hist.map f) (f ref) = (peakSeq hist ref).map f := by
  unfold peakSeq; rw [pv_map true f (Or.inl h), peakGo_map h]

theorem table_map {k f} (s : Sim k f) (cs : List Cyc) :
    table (cs.map (Cyc.map f)) = (table cs).map (fun p => (k * p.1, p.2)) := by
  unfold table
  rw [List.foldl_map]
  refine List.foldl_hom (List.map fun p : Nat × Nat => (k * p.1, p.2)) (init := []) fun t c => ?_
  have e : (Cyc.map f c).range = k * c.range := by simp [Cyc.map, Cyc.range, s.rng_eq]
  rw [e, tblAdd_eq, tblAdd_eq]
  exact accAdd_map (k * ·) (fun _ _ => Nat.mul_lt_mul_left s.kpos)
    (fun _ _ => Nat.mul_right_inj (Nat.ne_of_gt s.kpos)) _ _ t

end FF
