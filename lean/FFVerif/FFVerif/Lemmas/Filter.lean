/- Peak-valley filter: what it keeps refines to what it was given (`refines_pv`), hence idempotence, extremes
and ends; length; the shape of the filtered sequence between two given end points (`pv_ends`).  Core Lean only. -/
import FFVerif.Lemmas.Refine
namespace FF

theorem pv_true_idem (h : List Int) : pv true (pv true h) = pv true h :=
  (pv_refines true (refines_pv h)).symm

theorem pv_false_of_pv_true (h : List Int) : pv false (pv true h) = pv false h :=
  (pv_refines false (refines_pv h)).symm

theorem pv_true_extremes (h : List Int) :
    listMax (pv true h) = listMax h ∧ listMin (pv true h) = listMin h := by
  cases h with
  | nil => exact ⟨rfl, rfl⟩
  | cons x rest =>
    obtain ⟨e1, e2⟩ := refines_extremes (refines_pv (x :: rest)) (by simp [pv])
    exact ⟨e2.symm, e1.symm⟩

theorem pv_head? (h : List Int) : (pv true h).head? = h.head? :=
  (refines_pv h).head.symm

theorem pv_getLast? (h : List Int) : (pv true h).getLast? = h.getLast? :=
  (refines_pv h).getLast.symm

theorem pv_length_two (x y : Int) (rest : List Int) : 2 ≤ (pv true (x :: y :: rest)).length := by
  rw [pv_true_eq_reversals]; simp [reversals]

theorem pv_length_ge (h : List Int) (hc : isConstant h = false) : 2 ≤ (pv true h).length := by
  rcases h with _ | ⟨x, _ | ⟨y, rest⟩⟩
  · simp [isConstant] at hc
  · simp [isConstant] at hc
  · exact pv_length_two x y rest

theorem pv_ne_nil {h : List Int} (hc : isConstant h = false) : pv true h ≠ [] :=
  List.ne_nil_of_length_pos (Nat.lt_of_lt_of_le (by decide) (pv_length_ge h hc))

theorem pvGo_const (x : Int) (rest : List Int) (h : ∀ y ∈ rest, y = x) : (pvGo true x rest).length ≤ 1 := by
  fun_induction pvGo true x rest with
  | case1 => simp
  | case2 p last => simp
  | case3 p last hk => exact absurd rfl hk
  | case4 p cur next rest hc ih => have := h cur (by simp); omega
  | case5 p cur next rest hc ih => exact ih fun y hy => h y (List.mem_cons_of_mem _ hy)

theorem pv_const_length (h : List Int) (hc : isConstant h = true) : (pv true h).length ≤ 2 := by
  cases h with
  | nil => simp [pv]
  | cons x rest =>
    have := pvGo_const x rest (by simpa [isConstant] using hc)
    simp [pv]; omega

/-- the loop of the filter keeps the last sample, and of the others some -/
theorem pvGo_concat (b : Int) (X : List Int) (p : Int) :
    ∃ Z, pvGo true p (X ++ [b]) = Z ++ [b] ∧ Z.Sublist X := by
  induction X generalizing p with
  | nil => exact ⟨[], rfl, .slnil⟩
  | cons x X ih =>
    obtain ⟨y, Y, e⟩ := List.exists_cons_of_ne_nil (List.append_ne_nil_of_right_ne_nil X (List.cons_ne_nil b []))
    rw [List.cons_append, e, pvGo, ← e]
    split
    · obtain ⟨Z, hZ, s⟩ := ih x
      exact ⟨x :: Z, congrArg (x :: ·) hZ, s.cons_cons x⟩
    · obtain ⟨Z, hZ, s⟩ := ih p
      exact ⟨Z, hZ, s.cons x⟩

/-- the filter keeps both ends and some of the samples between them; what it keeps alternates, unless it
is `[a, a]` -/
theorem pv_ends (a b : Int) (X : List Int) :
    ∃ Z, pv true (a :: (X ++ [b])) = a :: (Z ++ [b]) ∧ Z.Sublist X ∧
      (a ≠ b ∨ Z ≠ [] → Zig (a :: (Z ++ [b]))) := by
  obtain ⟨Z, e, s⟩ := pvGo_concat b X a
  have e' : pv true (a :: (X ++ [b])) = a :: (Z ++ [b]) := congrArg (a :: ·) e
  refine ⟨Z, e', s, fun hne => e' ▸ pv_zig _ (Bool.eq_false_iff.mpr fun hc => ?_)⟩
  -- a constant history leaves two samples, `[a, a]`
  have h3 := pv_const_length _ hc
  simp [isConstant, e'] at hc h3
  exact hne.elim (fun h => h hc.2.symm) (fun h => h h3)

end FF
