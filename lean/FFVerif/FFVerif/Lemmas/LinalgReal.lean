/- `Model/Linalg.lean` at the reals: storing is the identity, the folds are `Finset` sums, `dot n` is a
symmetric bilinear form on the first `n` entries and `norm n` its norm. -/
import Mathlib.Algebra.BigOperators.Intervals
import Mathlib.Algebra.Order.BigOperators.Ring.Finset
import Mathlib.Analysis.SpecialFunctions.Sqrt
import Mathlib.Tactic.Ring
import Mathlib.Analysis.SpecialFunctions.Pow.Real
import FFVerif.Lemmas.RealScalar
import FFVerif.Model.Linalg
namespace FF.Linalg
open Finset

section generic
variable {α : Type}

@[simp] theorem ofArr_mkArr (n : Nat) (f : Vec α) : ofArr (mkArr n f) f = f := by
  funext i
  unfold ofArr mkArr
  split
  · exact Array.getElem_ofFn ..
  · rfl

@[simp] theorem ofArr2_mkArr2 (n : Nat) (f : Mat α) : ofArr2 (mkArr2 n f) f = f := by
  funext i j
  unfold ofArr2 mkArr2
  split
  · simp only [Array.getElem_ofFn]
    exact congrFun (ofArr_mkArr n (f i)) j
  · rfl

end generic

@[simp] theorem zero_real : (zero : ℝ) = 0 := by rw [zero, lit_real, Nat.cast_zero, zero_div]
@[simp] theorem one_real : (one : ℝ) = 1 := by rw [one, lit_real, Nat.cast_one, pow_zero, div_one]

theorem sum_ite_mul (n : Nat) (f : Nat → ℝ) (i : Nat) (hi : i < n) :
    ∑ k ∈ range n, (if k = i then 1 else 0) * f k = f i := by
  rw [sum_eq_single_of_mem i (mem_range.mpr hi) (fun k _ hk => by rw [if_neg hk, zero_mul]), if_pos rfl, one_mul]

/-- the vector `y` with entry `i` replaced by `s` is `y + ( s - y_i ) e_i` -/
theorem upd_eq (y : Vec ℝ) (i : Nat) (s : ℝ) (k : Nat) :
    (if k = i then s else y k) = y k + (s - y i) * (if k = i then 1 else 0) := by
  by_cases h : k = i
  · rw [if_pos h, if_pos h, h, mul_one, add_sub_cancel]
  · rw [if_neg h, if_neg h, mul_zero, add_zero]

theorem fsum_real (n : Nat) (f : Nat → ℝ) : fsum n f = ∑ i ∈ range n, f i := by
  unfold fsum
  induction n with
  | zero => exact zero_real
  | succ k ih => rw [List.range_succ, List.foldl_append, ih, Finset.sum_range_succ]; rfl

theorem dot_real (n : Nat) (a b : Vec ℝ) : dot n a b = ∑ i ∈ range n, a i * b i := by
  unfold dot; rw [fsum_real]

theorem dot_self_nonneg (n : Nat) (a : Vec ℝ) : 0 ≤ dot n a a := by
  rw [dot_real]; exact Finset.sum_nonneg (fun i _ => mul_self_nonneg _)

theorem norm_real (n : Nat) (a : Vec ℝ) : norm n a = Real.sqrt (∑ i ∈ range n, a i * a i) := by
  unfold norm; rw [dot_real]; rfl

theorem norm_nonneg (n : Nat) (a : Vec ℝ) : 0 ≤ norm n a := by
  rw [norm_real]; exact Real.sqrt_nonneg _

theorem norm_sq (n : Nat) (a : Vec ℝ) : norm n a * norm n a = dot n a a := by
  unfold norm; exact Real.mul_self_sqrt (dot_self_nonneg n a)

theorem mulVec_real (n : Nat) (M : Mat ℝ) (v : Vec ℝ) (i : Nat) :
    mulVec n M v i = ∑ j ∈ range n, M i j * v j := by
  unfold mulVec; rw [dot_real]

theorem tmulVec_real (n : Nat) (M : Mat ℝ) (v : Vec ℝ) (j : Nat) :
    tmulVec n M v j = ∑ i ∈ range n, M i j * v i := by
  unfold tmulVec; rw [fsum_real]

theorem tmulVec_one (n : Nat) (M : Mat ℝ) (hM : ∀ i j, i < n → j < n → M i j = if i = j then 1 else 0) (v : Vec ℝ)
    (j : Nat) (hj : j < n) : tmulVec n M v j = v j := by
  rw [tmulVec_real, Finset.sum_congr rfl fun i hi => by rw [hM i j (mem_range.mp hi) hj], sum_ite_mul n v j hj]

theorem mmul_real (n : Nat) (A B : Mat ℝ) (i j : Nat) :
    mmul n A B i j = ∑ k ∈ range n, A i k * B k j := by
  unfold mmul; rw [fsum_real]

theorem dot_comm (n : Nat) (a b : Vec ℝ) : dot n a b = dot n b a := by
  simp only [dot_real]; exact Finset.sum_congr rfl (fun i _ => mul_comm _ _)

theorem dot_tmulVec (n : Nat) (M : Mat ℝ) (u v : Vec ℝ) :
    dot n u (tmulVec n M v) = dot n (mulVec n M u) v := by
  simp only [dot_real, tmulVec_real, mulVec_real, Finset.mul_sum, Finset.sum_mul]
  rw [Finset.sum_comm]
  refine Finset.sum_congr rfl (fun i _ => Finset.sum_congr rfl (fun j _ => ?_))
  ring

theorem mulVec_mulVec_cancel (n : Nat) (A B : Mat ℝ) (v : Vec ℝ)
    (h : ∀ i j, i < n → j < n → ∑ k ∈ range n, A i k * B k j = if i = j then 1 else 0) (i : Nat) (hi : i < n) :
    mulVec n A (mulVec n B v) i = v i := by
  simp only [mulVec_real, Finset.mul_sum]
  rw [Finset.sum_comm, Finset.sum_congr rfl fun k hk => by
      rw [Finset.sum_congr rfl fun j _ => (mul_assoc (A i j) (B j k) (v k)).symm, ← Finset.sum_mul,
        h i k hi (Finset.mem_range.mp hk)],
    Finset.sum_eq_single_of_mem i (Finset.mem_range.mpr hi) fun k _ hk => by rw [if_neg (Ne.symm hk), zero_mul],
    if_pos rfl, one_mul]

theorem dot_congr {n : Nat} {a a' b b' : Vec ℝ} (ha : ∀ i, i < n → a i = a' i) (hb : ∀ i, i < n → b i = b' i) :
    dot n a b = dot n a' b' := by
  simp only [dot_real]
  exact Finset.sum_congr rfl fun i hi => by rw [ha i (mem_range.mp hi), hb i (mem_range.mp hi)]

theorem dot_congr_right (n : Nat) (u v w : Vec ℝ) (h : ∀ m < n, v m = w m) : dot n u v = dot n u w :=
  dot_congr (fun _ _ => rfl) h

theorem norm_congr {n : Nat} {a a' : Vec ℝ} (ha : ∀ i, i < n → a i = a' i) : norm n a = norm n a' := by
  unfold norm; rw [dot_congr ha ha]

theorem dot_smul_left (n : Nat) (k : ℝ) (a b : Vec ℝ) : dot n (fun i => k * a i) b = k * dot n a b := by
  simp only [dot_real, Finset.mul_sum, mul_assoc]

theorem dot_smul_right (n : Nat) (k : ℝ) (a b : Vec ℝ) : dot n a (fun i => k * b i) = k * dot n a b := by
  rw [dot_comm, dot_smul_left, dot_comm]

theorem dot_vsub_left (n : Nat) (a b c : Vec ℝ) : dot n (vsub a b) c = dot n a c - dot n b c := by
  simp only [dot_real, vsub, sub_mul, Finset.sum_sub_distrib]

theorem norm_vsub_comm (n : Nat) (a b : Vec ℝ) : norm n (vsub a b) = norm n (vsub b a) := by
  unfold norm
  rw [dot_real, dot_real]
  exact congrArg _ (Finset.sum_congr rfl fun i _ => by unfold vsub; ring)

theorem norm_smul (n : Nat) (k : ℝ) (w : Vec ℝ) : norm n (fun i => k * w i) = |k| * norm n w := by
  unfold norm
  rw [dot_smul_left, dot_smul_right, ← mul_assoc, sqrt_real, Real.sqrt_mul (mul_self_nonneg k), Real.sqrt_mul_self_eq_abs]
  rfl

theorem norm_pos {n : Nat} {w : Vec ℝ} (hw : norm n w ≠ 0) : 0 < norm n w :=
  lt_of_le_of_ne (norm_nonneg n w) (Ne.symm hw)

theorem abs_dot_le (n : Nat) (a b : Vec ℝ) : |dot n a b| ≤ norm n a * norm n b := by
  refine abs_le_of_sq_le_sq ?_ (mul_nonneg (norm_nonneg n a) (norm_nonneg n b))
  rw [mul_pow, sq (norm n a), sq (norm n b), norm_sq, norm_sq]
  simp only [dot_real, ← sq]
  exact Finset.sum_mul_sq_le_sq_mul_sq _ _ _

end FF.Linalg
