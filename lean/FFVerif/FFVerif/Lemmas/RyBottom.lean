/- Rychlik bottoms on the raw history: the right-hand scan over the reversal sequence (the model)
and over the de-plateaued raw history find the same minimum; when the top does not recur to the
right this is the one-sided minimum of the specification.  Core Lean only. -/
import FFVerif.Lemmas.JoBottom
namespace FF
open C06

/-- to a scan that passes `b`, the samples after `b` look like the reversals after `b`: a sample on a
monotone stretch is invisible (`sm_between`) -/
theorem sm_revTail (rest : List Int) (b c : Int) (h : NoRep (b :: c :: rest)) (M : Int) :
    sm M (b :: revTail b (c :: rest)) = sm M (b :: c :: rest) := by
  induction rest generalizing b c with
  | nil => rfl
  | cons d rest ih =>
    obtain ⟨n, t, e, h1, h2⟩ := revTail_head rest c d h.2
    have ih := ih c d h.2
    rw [e] at ih
    by_cases hk : (b < c ∧ c > d) ∨ (b > c ∧ c < d)
    · rw [revTail_kept rest hk, e]
      exact sm_cons_congr b ih
    · -- `c` lies on a monotone stretch from `b` to the next reversal `n`
      have mono := goes_on hk h.1 h.2.1
      rw [revTail_skip rest hk, e, ← sm_cons_congr b ih, sm_between (by omega) t M]

theorem smLe_revTail (rest : List Int) (b c : Int) (h : NoRep (b :: c :: rest)) :
    smLe b (revTail b (c :: rest)) = smLe b (c :: rest) :=
  smLe_congr (sm_revTail rest b c h _)

/-- every Rychlik bottom is the higher of the left-hand minimum and the right-hand minimum taken up
to the next sample strictly above the top, on the de-plateaued history -/
theorem rychlik_bottoms_raw (h : List Int) : ∀ pc ∈ (peaksOf h).zip (rychlik h),
    pc.2.a = max (sideMin pc.1.2.1 pc.1.1) (smLe pc.1.2.1 pc.1.2.2) := by
  rw [rychlik_eq_map, List.zip_map_right]
  intro pc hpc
  obtain ⟨pp, hpp, rfl⟩ := List.mem_map.mp hpc
  obtain ⟨lD, M, rD, q, l, n, r, rfl, hq, hn, k1, k3⟩ := peaks_zip h pp hpp
  obtain ⟨⟨_, _, c, rest, _, rfl, _, _⟩, (hs : _ = dedup h)⟩ := peaksCtx_mem [] _ _ _ _ (List.of_mem_zip hpp).1
  have hnr : NoRep (M :: c :: rest) := (hs ▸ dedup_noRep h).suffix _
  show max (scanMin M (q :: l)) (scanMinLe M (n :: r)) = max (sideMin M lD) (smLe M (c :: rest))
  rw [scanMin_eq_sm _ q l hq, scanMinLe_eq_smLe _ n r hn, sideMin_eq_sm, k1, ← k3, smLe_revTail rest M c hnr]

/-- the local bottom predicate: unless the top recurs in the raw right context, the bottom is the
higher of the two raw one-sided minima -/
def ryLocal (pc : (List Int × Int × List Int) × Cyc) : Bool :=
  pc.1.2.2.contains pc.1.2.1 || pc.2.a == max (sideMin pc.1.2.1 pc.1.1) (sideMin pc.1.2.1 pc.1.2.2)

theorem rychlik_bottoms_all (h : List Int) :
    ((peaksOf h).zip (rychlik h)).all ryLocal = true := by
  rw [List.all_eq_true]
  intro pc hpc
  by_cases hu : pc.1.2.1 ∈ pc.1.2.2
  · exact Bool.or_eq_true_iff.mpr (Or.inl (List.contains_iff_mem.mpr hu))
  · refine Bool.or_eq_true_iff.mpr (Or.inr ?_)
    rw [rychlik_bottoms_raw h pc hpc, smLe_eq_sm_of_not_mem _ _ hu, sideMin_eq_sm pc.1.2.1 pc.1.2.2,
      beq_self_eq_true]

theorem uniqueTop_not_mem_right (h : List Int) (pc : List Int × Int × List Int)
    (hpc : pc ∈ peaksOf h) (hu : uniqueTop h pc.2.1 = true) : pc.2.1 ∉ pc.2.2 := by
  have hs : pc.1.reverse ++ pc.2.1 :: pc.2.2 = dedup h := (peaksCtx_mem [] (dedup h) _ _ _ hpc).2
  simp only [uniqueTop, beq_iff_eq] at hu
  rw [← hs, List.count_append, List.count_cons_self] at hu
  exact List.count_eq_zero.mp (by omega)

/-- C06, Rychlik bottoms on the raw history -/
theorem C06_rychlik_bottoms (h : List Int) : C06.ryBottomsOK h (rychlik h) = true := by
  have hall := rychlik_bottoms_all h
  simp only [ryBottomsOK, ryLocal, List.all_eq_true, Bool.or_eq_true, Bool.not_eq_true'] at hall ⊢
  intro pc hpc
  by_cases hu : uniqueTop h pc.1.2.1 = true
  · exact Or.inr ((hall pc hpc).resolve_left fun hc =>
      uniqueTop_not_mem_right h pc.1 (List.of_mem_zip hpc).1 hu (List.contains_iff_mem.mp hc))
  · exact Or.inl (by simpa using hu)

end FF
