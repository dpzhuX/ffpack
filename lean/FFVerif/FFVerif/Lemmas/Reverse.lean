/- Time reversal: the reversal sequence of the reversed history is the reversed reversal sequence (a constant
history is its own reverse), its half cycles are the swapped half cycles in reverse order, and neither swapping
nor reversing a cycle list changes its units at a range.  Core Lean only. -/
import FFVerif.Lemmas.PeakValley
import FFVerif.Lemmas.Zig
import FFVerif.Lemmas.Rainflow
namespace FF

theorem dedup_snoc (m : List Int) (a : Int) :
    dedup (m ++ [a]) = if m.getLast? = some a then dedup m else dedup m ++ [a] := by
  induction m with
  | nil => simp [dedup]
  | cons x m ih =>
    cases m with
    | nil =>
      by_cases h : x = a
      · subst h; simp [dedup]
      · simp [dedup, h]
    | cons y r =>
      have hl : (x :: y :: r).getLast? = (y :: r).getLast? := List.getLast?_cons_cons
      simp only [List.cons_append] at ih ⊢
      by_cases hxy : x = y
      · subst hxy
        rw [dedup_cons_eq, ih, hl, dedup_cons_eq]
      · rw [dedup_cons_ne x y _ hxy, ih, hl, dedup_cons_ne x y r hxy]
        split <;> simp

theorem dedup_cons' (a : Int) (t : List Int) :
    dedup (a :: t) = if t.head? = some a then dedup t else a :: dedup t := by
  cases t with
  | nil => simp [dedup]
  | cons b t =>
    by_cases h : a = b
    · subst h; simp [dedup_cons_eq]
    · have : ¬ b = a := fun e => h e.symm
      simp [dedup_cons_ne a b t h, this]

theorem dedup_reverse (l : List Int) : dedup l.reverse = (dedup l).reverse := by
  induction l with
  | nil => rfl
  | cons a t ih =>
    rw [List.reverse_cons, dedup_snoc, ih, List.getLast?_reverse, dedup_cons']
    split <;> simp

theorem turning_cons3 (x y z : Int) (l : List Int) : turning (x :: y :: z :: l) =
    (if (x < y ∧ y > z) ∨ (x > y ∧ y < z) then [y] else []) ++ turning (y :: z :: l) := by
  rw [turning]; split <;> rfl

theorem turning_snoc3 (Y : List Int) (c b a : Int) :
    turning (Y ++ [c, b, a]) = turning (Y ++ [c, b]) ++
      (if (c < b ∧ b > a) ∨ (c > b ∧ b < a) then [b] else []) := by
  induction Y with
  | nil => simp [turning]
  | cons y Y ih =>
    -- `turning_cons3` wants to see three points
    rcases Y with _ | ⟨z, _ | ⟨w, Y⟩⟩
    · show turning (y :: c :: b :: [a]) = turning (y :: c :: b :: []) ++ _
      rw [turning_cons3, turning_cons3 c b a, turning_cons3 y c b]; simp [turning]
    · show turning (y :: z :: c :: [b, a]) = turning (y :: z :: c :: [b]) ++ _
      rw [turning_cons3, turning_cons3 y z c, List.append_assoc]; exact congrArg _ ih
    · show turning (y :: z :: w :: (Y ++ [c, b, a])) = turning (y :: z :: w :: (Y ++ [c, b])) ++ _
      rw [turning_cons3, turning_cons3 y z w, List.append_assoc]; exact congrArg _ ih

theorem turning_reverse (l : List Int) : turning l.reverse = (turning l).reverse := by
  induction l with
  | nil => rfl
  | cons a l ih =>
    rcases l with _ | ⟨b, _ | ⟨c, rest⟩⟩
    · rfl
    · simp [turning]
    · have e1 : (a :: b :: c :: rest).reverse = rest.reverse ++ [c, b, a] := by simp
      have e2 : (b :: c :: rest).reverse = rest.reverse ++ [c, b] := by simp
      -- being a turning point does not depend on the direction of reading
      have hc : ((c < b ∧ b > a) ∨ (c > b ∧ b < a)) ↔ ((a < b ∧ b > c) ∨ (a > b ∧ b < c)) := by
        rw [and_comm, and_comm (a := c > b)]
      rw [e1, turning_snoc3, ← e2, ih, turning_cons3]
      simp only [hc]
      split <;> simp

theorem lastD_eq_getLast? (l : List Int) (d : Int) : lastD l d = (l.getLast?).getD d := by
  fun_induction lastD l d with
  | case1 d => rfl
  | case2 x xs d ih => rw [ih, List.getLast?_cons]; rfl

theorem reversals_eq (h : List Int) (hl : 2 ≤ h.length) :
    reversals h = h.head?.toList ++ turning (dedup h) ++ h.getLast?.toList := by
  rcases h with _ | ⟨x, _ | ⟨y, rest⟩⟩
  · simp at hl
  · simp at hl
  · simp only [reversals, List.head?_cons, Option.toList_some, List.cons_append, List.nil_append]
    rw [lastD_eq_getLast?]
    simp [List.getLast?_cons_cons]
    cases hg : (y :: rest).getLast? with
    | none => simp at hg
    | some v => simp

theorem reversals_reverse (h : List Int) : reversals h.reverse = (reversals h).reverse := by
  by_cases hl : 2 ≤ h.length
  · rw [reversals_eq h.reverse (by simpa using hl), reversals_eq h hl, dedup_reverse, turning_reverse,
      List.head?_reverse, List.getLast?_reverse]
    cases h.head? <;> cases h.getLast? <;> simp
  · rcases h with _ | ⟨x, _ | ⟨y, rest⟩⟩
    · rfl
    · rfl
    · simp at hl

theorem pv_true_reverse (h : List Int) : pv true h.reverse = (pv true h).reverse := by
  rw [pv_true_eq_reversals, pv_true_eq_reversals, reversals_reverse]

theorem isConstant_iff (h : List Int) : isConstant h = true ↔ ∀ a ∈ h, ∀ b ∈ h, a = b := by
  cases h with
  | nil => simp [isConstant]
  | cons x xs =>
    simp only [isConstant, List.all_eq_true, beq_iff_eq, List.mem_cons]
    constructor
    · intro h a ha b hb
      have e1 : a = x := by rcases ha with rfl | ha; rfl; exact h a ha
      have e2 : b = x := by rcases hb with rfl | hb; rfl; exact h b hb
      rw [e1, e2]
    · intro h y hy
      exact h y (Or.inr hy) x (Or.inl rfl)

theorem reverse_of_isConstant {h : List Int} (hc : isConstant h = true) : h.reverse = h := by
  cases h with
  | nil => rfl
  | cons x xs =>
    have : x :: xs = List.replicate (xs.length + 1) x :=
      List.eq_replicate_iff.mpr ⟨rfl, fun b hb => (isConstant_iff _).mp hc b hb x List.mem_cons_self⟩
    rw [this, List.reverse_replicate]

theorem isConstant_reverse (h : List Int) : isConstant h.reverse = isConstant h :=
  Bool.eq_iff_iff.mpr (by rw [isConstant_iff, isConstant_iff]; simp)

def Cyc.swap (c : Cyc) : Cyc := ⟨c.b, c.a, c.half⟩

theorem halves_reverse (l : List Int) : halves l.reverse = ((halves l).map Cyc.swap).reverse := by
  induction l with
  | nil => rfl
  | cons a l ih =>
    rcases l with _ | ⟨b, rest⟩
    · rfl
    · -- `(a :: b :: rest).reverse` is `rest.reverse ++ [b, a]`, of which `halves_snoc` splits off the last pair
      rw [List.reverse_cons, List.reverse_cons, List.append_assoc, List.singleton_append, halves_snoc,
        ← List.reverse_cons, ih, halves, List.map_cons, List.reverse_cons]
      rfl

theorem unitsAt_reverse (cs : List Cyc) (k : Nat) : unitsAt cs.reverse k = unitsAt cs k := by
  unfold unitsAt; rw [List.filter_reverse, List.map_reverse, List.sum_reverse]

theorem unitsAt_map_swap (cs : List Cyc) (k : Nat) : unitsAt (cs.map Cyc.swap) k = unitsAt cs k := by
  unfold unitsAt
  rw [List.filter_map, List.map_map]
  have : (fun c : Cyc => c.range == k) ∘ Cyc.swap = fun c => c.range == k := by
    funext c; simp [Cyc.swap, Cyc.range, rng_comm]
  rw [this]; rfl

theorem Zig.reverse {l : List Int} (hz : Zig l) : Zig l.reverse := by
  by_cases hc : isConstant l = true
  · rwa [reverse_of_isConstant hc]
  · rw [← pv_of_zig l hz, ← pv_true_reverse]
    exact pv_zig _ (by rw [isConstant_reverse]; simpa using hc)

end FF
