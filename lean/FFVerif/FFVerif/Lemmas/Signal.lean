/- Hysteresis filter, digitisation, aggregation.  Core Lean only. -/
import FFVerif.Props.C19
import FFVerif.Lemmas.Table
namespace FF
open C19

/-- `out` is obtained from `h` by keeping points and dropping only points that lie strictly inside
the gate of the last kept point -/
inductive Kept (gate : Int) : Option Int → List Int → List Int → Prop
  | nil (last) : Kept gate last [] []
  | keep (last x hs os) : Kept gate (some x) hs os → Kept gate last (x :: hs) (x :: os)
  | drop (l x hs out) : natAbsDiff x l < gate → Kept gate (some l) hs out → Kept gate (some l) (x :: hs) out

/-- the inner scan drops only points inside the gate of `cur`, and never the last point -/
theorem skipUp_spec (cur gate : Int) (l : List Int) : (skipUp cur gate l).getLast? = l.getLast? ∧
    ∀ out, Kept gate (some cur) (skipUp cur gate l) out → Kept gate (some cur) l out := by
  fun_induction skipUp cur gate l with
  | case2 x y rest _ _ ih =>
    exact ⟨ih.1.trans List.getLast?_cons_cons.symm, fun out k =>
      Kept.drop cur x _ out (by unfold natAbsDiff; omega) (ih.2 out k)⟩
  | _ => exact ⟨rfl, fun _ => id⟩  -- nothing is dropped

theorem skipDown_spec (cur gate : Int) (l : List Int) : (skipDown cur gate l).getLast? = l.getLast? ∧
    ∀ out, Kept gate (some cur) (skipDown cur gate l) out → Kept gate (some cur) l out := by
  fun_induction skipDown cur gate l with
  | case2 x y rest _ _ ih =>
    exact ⟨ih.1.trans List.getLast?_cons_cons.symm, fun out k =>
      Kept.drop cur x _ out (by unfold natAbsDiff; omega) (ih.2 out k)⟩
  | _ => exact ⟨rfl, fun _ => id⟩

theorem hystGo_kept (gate : Int) (hg : 0 < gate) (l : List Int) (last : Option Int) :
    Kept gate last l (hystGo gate l) := by
  fun_induction hystGo gate l generalizing last with
  | case1 => exact Kept.nil last
  | case2 x => exact Kept.keep last x _ _ (Kept.nil _)
  | case3 next rest ih =>
    exact Kept.keep last next _ _ (Kept.drop next next _ _ (by unfold natAbsDiff; simpa using hg) (ih _))
  | case4 cur next rest _ _ ih => exact Kept.keep last cur _ _ ((skipUp_spec cur gate _).2 _ (ih _))
  | case5 cur next rest _ _ ih => exact Kept.keep last cur _ _ ((skipDown_spec cur gate _).2 _ (ih _))

theorem Kept.sublist {gate : Int} {last : Option Int} {h out : List Int} (k : Kept gate last h out) :
    out.Sublist h := by
  induction k with
  | nil => exact List.Sublist.slnil
  | keep last x hs os _ ih => exact ih.cons_cons x
  | drop l x hs out _ _ ih => exact ih.cons x

theorem Kept.head {gate : Int} {h out : List Int} (k : Kept gate none h out) : out.head? = h.head? := by
  cases k with
  | nil => rfl
  | keep last x hs os _ => rfl

/-- the last *value* of the record is kept -/
theorem hystGo_last (gate : Int) (l : List Int) : (hystGo gate l).getLast? = l.getLast? := by
  fun_induction hystGo gate l with
  | case1 => rfl
  | case2 x => rfl
  | case3 next rest ih => rw [List.getLast?_cons, ih, List.getLast?_cons_cons, List.getLast?_cons]
  | case4 cur next rest _ _ ih => rw [List.getLast?_cons, ih, (skipUp_spec cur gate _).1, ← List.getLast?_cons]
  | case5 cur next rest _ _ ih => rw [List.getLast?_cons, ih, (skipDown_spec cur gate _).1, ← List.getLast?_cons]

theorem rhe_cases (k r : Int) :
    (roundHalfEven k r = k / r ∧ 2 * (k % r) ≤ r ∧ (2 * (k % r) = r → (k / r) % 2 = 0)) ∨
    (roundHalfEven k r = k / r + 1 ∧ 2 * (k % r) ≥ r ∧ (2 * (k % r) = r → (k / r + 1) % 2 = 0)) := by
  have hrem : k - k / r * r = k % r := by rw [Int.mul_comm, Int.emod_def]
  unfold roundHalfEven
  simp only [hrem]
  by_cases h1 : 2 * (k % r) < r
  · rw [if_pos h1]; exact Or.inl ⟨rfl, Int.le_of_lt h1, fun e => absurd e (Int.ne_of_lt h1)⟩
  · rw [if_neg h1]
    by_cases h2 : 2 * (k % r) > r
    · rw [if_pos h2]; exact Or.inr ⟨rfl, Int.le_of_lt h2, fun e => absurd e.symm (Int.ne_of_lt h2)⟩
    · rw [if_neg h2]
      by_cases h3 : k / r % 2 = 0
      · rw [if_pos h3]; exact Or.inl ⟨rfl, Int.not_lt.mp h2, fun _ => h3⟩
      · rw [if_neg h3]
        exact Or.inr ⟨rfl, Int.not_lt.mp h1, fun _ => by
          rw [Int.add_emod, (Int.emod_two_eq _).resolve_left h3]; rfl⟩

/-- `roundHalfEven k r` is a nearest integer to `k / r`, the even one of the two at a tie -/
theorem rhe_mul (k r : Int) (hr : 0 < r) :
    ∃ q e : Int, roundHalfEven k r = q ∧ k = q * r + e ∧ 2 * e ≤ r ∧ -r ≤ 2 * e ∧
      ((2 * e = r ∨ 2 * e = -r) → q % 2 = 0) := by
  have h1 : k = k / r * r + k % r := by rw [Int.mul_comm]; exact (Int.mul_ediv_add_emod k r).symm
  have h2 := Int.emod_nonneg k (Int.ne_of_gt hr)
  have h3 := Int.emod_lt_of_pos k hr
  rcases rhe_cases k r with ⟨e1, e2, e3⟩ | ⟨e1, e2, e3⟩
  · exact ⟨k / r, k % r, e1, h1, e2, by omega, fun h => h.elim e3 fun h => by omega⟩
  · refine ⟨k / r + 1, k % r - r, e1, ?_, by omega, by omega, fun h => h.elim (fun h => by omega) fun h => e3 (by omega)⟩
    rw [Int.add_mul, Int.one_mul]; omega

theorem digitOne_ok (k r : Int) (hr : 0 < r) : digitOneOK r k (roundHalfEven k r * r) = true := by
  obtain ⟨q, e, hq, hk, h1, h2, h3⟩ := rhe_mul k r hr
  have hd : natAbsDiff k (q * r) = e.natAbs := congrArg Int.natAbs (Int.sub_eq_iff_eq_add'.mpr hk)
  simp only [hq, digitOneOK, Bool.and_eq_true, beq_iff_eq, decide_eq_true_eq, Bool.or_eq_true, bne_iff_ne, hd]
  refine ⟨⟨Int.mul_emod_left q r, by omega⟩, ?_⟩
  rw [Int.mul_ediv_cancel q (Int.ne_of_gt hr)]
  exact (Decidable.em _).symm.imp_right fun ht => h3 (Int.natAbs_eq_natAbs_iff.mp ((Int.natAbs_mul 2 e).trans ht))

theorem rhe_idem (n r : Int) (hr : 0 < r) : roundHalfEven (n * r) r = n := by
  unfold roundHalfEven
  have h1 : n * r / r = n := Int.mul_ediv_cancel n (by omega)
  simp only [h1, Int.sub_self]
  have : (2 : Int) * 0 < r := by omega
  rw [if_pos this]

theorem rhe_mono (k k' r : Int) (hr : 0 < r) (hk : k ≤ k') : roundHalfEven k r ≤ roundHalfEven k' r := by
  obtain ⟨q, e, hq, hke, h1, h2, h3⟩ := rhe_mul k r hr
  obtain ⟨q', e', hq', hke', h1', h2', h3'⟩ := rhe_mul k' r hr
  rw [hq, hq']
  refine Int.not_lt.mp fun hlt => ?_
  -- `q' + 1 ≤ q` and `k ≤ k'` leave room only for `q = q' + 1` with `e = -r/2`, `e' = r/2`: two ties, both
  -- quotients even, one apart
  have hge : q' * r + r ≤ q * r := by
    have := Int.mul_le_mul_of_nonneg_right (Int.add_one_le_of_lt hlt) (Int.le_of_lt hr)
    rwa [Int.add_mul, Int.one_mul] at this
  have he : 2 * e' = r ∧ 2 * e = -r ∧ q * r = q' * r + r := by omega
  have hqq : q = q' + 1 := by
    refine Int.eq_of_mul_eq_mul_right (Int.ne_of_gt hr) ?_
    rw [he.2.2, Int.add_mul, Int.one_mul]
  have := h3 (Or.inr he.2.1)
  have := h3' (Or.inl he.1)
  omega

theorem binKey_spec (b v : Int) (hb : 0 < b) :
    binKey b v % b = 0 ∧ (0 ≤ v → 2 * natAbsDiff v (binKey b v) ≤ b.natAbs) := by
  unfold binKey
  simp only []
  constructor
  · split
    · rw [Int.add_emod_right]; exact Int.mul_emod_right _ _
    · exact Int.mul_emod_right _ _
  · intro hv
    have h1 := Int.mul_ediv_add_emod v b
    have h2 := Int.emod_nonneg v (Int.ne_of_gt hb)
    have h3 := Int.emod_lt_of_pos v hb
    rw [Int.tdiv_eq_ediv_of_nonneg hv]
    unfold natAbsDiff
    split <;> omega

/-- `KeysSorted` at integer keys, the form in which `C19_agg` states it -/
def ASorted (t : List (Int × Nat)) : Prop := t.Pairwise (fun a b => a.1 < b.1)

theorem aggAdd_eq (k : Int) (u : Nat) (t : List (Int × Nat)) : aggAdd k u t = accAdd k u t := by
  induction t with
  | nil => rfl
  | cons a t ih => simp only [aggAdd, accAdd, ih]

theorem aggregate_eq (b : Int) (rows : List (Int × Nat)) :
    aggregate b rows = accAll (rows.map fun p => (binKey b p.1, p.2)) [] := by
  simp only [aggregate, accAll, List.foldl_map, aggAdd_eq]

end FF
