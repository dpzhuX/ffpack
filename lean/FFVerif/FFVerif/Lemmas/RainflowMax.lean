/- Rainflow: the largest counted range is the overall range of the history.  Core Lean only. -/
import FFVerif.Lemmas.Confl
import FFVerif.Lemmas.Filter
import FFVerif.Lemmas.Table
import FFVerif.Props.C01
namespace FF

/-- ranges that keep shrinking stay inside any interval that holds the first two points -/
theorem DecZig_within {lo hi : Int} (t : List Int) (x0 x1 : Int) (hz : Zig (x0 :: x1 :: t))
    (hd : Dec (x0 :: x1 :: t)) (l0 : lo ≤ x0) (h0 : x0 ≤ hi) (l1 : lo ≤ x1) (h1 : x1 ≤ hi) :
    ∀ y ∈ t, lo < y ∧ y < hi := by
  induction t generalizing x0 x1 with
  | nil => intro y hy; cases hy
  | cons x2 t ih =>
    have h3 : rng x1 x2 < rng x0 x1 := hd.1
    unfold rng at h3
    have hx : lo < x2 ∧ x2 < hi := by
      rcases Zig_turn [] x0 x1 x2 t hz with ⟨_, _⟩ | ⟨_, _⟩ <;> omega
    intro y hy
    rcases List.mem_cons.mp hy with rfl | hy
    · exact hx
    · exact ih x1 x2 (Zig_tail hz) hd.2 l1 h1 (Int.le_of_lt hx.1) (Int.le_of_lt hx.2) y hy

theorem Dec_inside (t : List Int) (x0 x1 : Int) (hz : Zig (x0 :: x1 :: t)) (hd : Dec (x0 :: x1 :: t)) :
    ∀ v ∈ t, (x0 < v ∧ v < x1) ∨ (x1 < v ∧ v < x0) := by
  intro v hv
  rcases Int.le_total x0 x1 with h | h
  · exact Or.inl (DecZig_within t x0 x1 hz hd (Int.le_refl _) h h (Int.le_refl _) v hv)
  · exact Or.inr (DecZig_within t x0 x1 hz hd h (Int.le_refl _) (Int.le_refl _) h v hv)

/-- the first half cycle of the residue spans the whole residue: everything after it lies strictly inside
the bounds, so the two extremes are its end points -/
theorem halves_max (L : List Int) (M m : Int) (hmM : m < M) (hz : Zig L) (hd : Dec L)
    (hb : ∀ x ∈ L, m ≤ x ∧ x ≤ M) (hM : M ∈ L) (hm : m ∈ L) :
    ∃ c ∈ halves L, c.range = (M - m).toNat := by
  rcases L with _ | ⟨x0, _ | ⟨x1, t⟩⟩
  · cases hM
  · simp only [List.mem_singleton] at hM hm; omega
  · refine ⟨⟨x0, x1, true⟩, List.mem_cons_self, ?_⟩
    have b0 := hb x0 (by simp)
    have b1 := hb x1 (by simp)
    have ends : ∀ e ∈ x0 :: x1 :: t, e = x0 ∨ e = x1 ∨ (m < e ∧ e < M) := fun e he =>
      (List.mem_cons.mp he).imp_right fun h =>
        (List.mem_cons.mp h).imp_right (DecZig_within t x0 x1 hz hd b0.1 b0.2 b1.1 b1.2 e)
    have := ends M hM; have := ends m hm
    show rng x0 x1 = (M - m).toNat
    unfold rng; omega

/-- an extraction of the three-point procedure removes no point that is above, or below, all others -/
theorem RfStep.keeps_bound {L L' : List Int} {cy : Cyc} (s : RfStep L cy L') (hz : Zig L) {up : Bool} {e : Int}
    (hb : ∀ y ∈ L, bd up e y) (he : e ∈ L) : e ∈ L' := by
  cases s with
  | whole P r a b c Q h1 h2 => exact ((RfStep.whole P r a b c Q h1 h2).step hz rfl).keeps_bound hb he
  | half a b c Q h1 =>
    refine (List.mem_cons.mp he).elim (fun h => ?_) id
    -- if the starting point is the extreme then `c` is the same extreme
    have t := Zig_turn [] a b c Q hz
    have hb := bd_all hb
    simp only [List.forall_mem_cons] at hb
    unfold rng at h1
    obtain rfl : e = c := by omega
    simp

theorem RfRun.keeps_bound {L N : List Int} {cs : List Cyc} (r : RfRun L cs N) (hz : Zig L) {up : Bool} {e : Int}
    (hb : ∀ y ∈ L, bd up e y) (he : e ∈ L) : e ∈ N := by
  induction r with
  | nil L => exact he
  | cons s _ ih =>
    have c := s.census (Census.start false _)
    exact ih (c.alt hz).1 (fun y hy => hb y (c.sub y hy)) (s.keeps_bound hz hb he)

/-- some counted cycle has range exactly `span h`: both extremes survive every extraction, so they are
the first two points of the residue -/
theorem rainflow_has_span (h : List Int) (hc : isConstant h = false) :
    ∃ c ∈ rainflow h, c.range = span h := by
  have hpne := pv_ne_nil hc
  obtain ⟨eM, em⟩ := pv_true_extremes h
  have hz := pv_zig h hc
  have hb : ∀ x ∈ pv true h, listMin h ≤ x ∧ x ≤ listMax h :=
    fun x hx => ⟨em ▸ listMin_le hx, eM ▸ le_listMax hx⟩
  obtain ⟨cs, N, run, hd, e⟩ := astm_run (pv true h)
  have cen : Census false (pv true h) cs N := run.census (Census.start false _)
  obtain ⟨c, hcm, hr⟩ := halves_max N (listMax h) (listMin h) (nonconst_min_lt_max h hc) (cen.alt hz).1 hd
    (fun x hx => hb x (cen.sub x hx))
    (run.keeps_bound hz (up := true) (fun x hx => (hb x hx).2) (eM ▸ listMax_mem _ hpne))
    (run.keeps_bound hz (up := false) (fun x hx => (hb x hx).1) (em ▸ listMin_mem _ hpne))
  exact ⟨c, by rw [rainflow_eq_astm, e]; exact List.mem_append_right _ hcm, hr⟩

theorem rainflow_le_span (h : List Int) (hc : isConstant h = false) :
    ∀ c ∈ rainflow h, c.range ≤ span h := by
  intro c hcm
  rw [rainflow_eq_astm] at hcm
  have g := (astm_census _ (pv_ne_nil hc)).2 (pv_zig h hc) c hcm
  exact rng_le_span ((pv_sublist true h).subset g.1) ((pv_sublist true h).subset g.2.1)

/-- C01, maxrange clause: the largest counted range is the overall range of the history -/
theorem C01_maxrange (h : List Int) (hc : isConstant h = false) :
    C01.maxRangeOK h (table (rainflow h)) = true := by
  obtain ⟨p, hp, hk⟩ := table_getLast (rainflow h) (span h) (rainflow_has_span h hc)
    (rainflow_le_span h hc)
  unfold C01.maxRangeOK
  rw [hp]; simp [hk]

end FF
