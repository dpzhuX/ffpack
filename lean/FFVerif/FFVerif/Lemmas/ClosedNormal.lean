/- Shape of four-point residues: converging once the ranges start to shrink; a sequence that starts
and ends at an extreme has the residue `[e, x, e]`, one that runs from one extreme to the other
`[e, f]`.  Hence rotating a closed sequence from its minimum to its maximum leaves the canonical
histogram `T` unchanged (`T_rotate`).  Core Lean only. -/
import FFVerif.Lemmas.ConflRF
import FFVerif.Lemmas.RainflowMax
import FFVerif.Props.C04
namespace FF

/-- in a residue, once a range is smaller than its predecessor all later ranges keep shrinking -/
theorem normal_dec (T : List Int) (a b c : Int) (hn : Normal (a :: b :: c :: T)) (hz : Zig (a :: b :: c :: T))
    (h : rng b c < rng a b) : Dec (a :: b :: c :: T) := by
  induction T generalizing a b c with
  | nil => exact ⟨h, trivial⟩
  | cons d T ih =>
    have hcd : rng c d < rng b c := by
      refine Classical.byContradiction fun hge => ?_
      exact hn _ _ (Step.here a b c d T hz.alt4 (by omega) (by omega))
    exact ⟨h, ih b c d hn.tail (Zig_tail hz) hcd⟩

/-- in a residue whose second range is not larger than the first, every point after the third lies
strictly inside the second range: the ranges shrink from there on -/
theorem normal_inside (a x y : Int) (rest : List Int) (hn : Normal (a :: x :: y :: rest))
    (hz : Zig (a :: x :: y :: rest)) (h : rng x y ≤ rng a x) :
    ∀ v ∈ rest, (x < v ∧ v < y) ∨ (y < v ∧ v < x) := by
  match rest, hn, hz with
  | [], _, _ => intro v hv; cases hv
  | z :: rest, hn, hz =>
    have h1 : rng y z < rng x y := by
      refine Classical.byContradiction fun hge => ?_
      exact hn _ _ (Step.here a x y z rest hz.alt4 h (by omega))
    exact Dec_inside _ x y (Zig_tail hz) (normal_dec rest x y z hn.tail (Zig_tail hz) h1)

/-- a sequence whose first point `e` and last point `f` are both bounds of it (from whichever side)
leaves a residue of two or three points: extractions keep the ends, and from the fourth point on
every point of a residue lies strictly between the second and the third -/
theorem Red.ends {L cs N} {e f : Int} {ue uf : Bool} (r : Red L cs N) (hz : Zig L) (hl : 2 ≤ L.length)
    (hh : L.head? = some e) (ht : L.getLast? = some f) (he : ∀ y ∈ L, bd ue e y)
    (hf : ∀ y ∈ L, bd uf f y) : N = [e, f] ∨ ∃ x, N = [e, x, f] := by
  have st := r.steps
  have hz := r.zig hz
  have hl := st.length_ge hl
  obtain ⟨t, rfl⟩ := List.head?_eq_some_iff.mp (st.head.trans hh)
  have ht := st.getLast.trans ht
  have hf := bd_all fun y hy => hf y (st.mem y hy)
  rcases t with _ | ⟨x, _ | ⟨y, _ | ⟨w, rest⟩⟩⟩
  · simp at hl
  · obtain rfl : x = f := by simpa using ht
    exact Or.inl rfl
  · obtain rfl : y = f := by simpa using ht
    exact Or.inr ⟨x, rfl⟩
  · exfalso
    simp only [List.forall_mem_cons] at hf
    have := normal_inside e x y (w :: rest) r.normal hz
      (hz.alt3.rng_le (he x (st.mem x (by simp))) (he y (st.mem y (by simp)))) f
      (List.mem_of_getLast? (by simpa only [List.getLast?_cons_cons] using ht))
    omega

/-- a sequence that starts and ends at the same bound `e` of it leaves the residue `[e, x, e]` -/
theorem Red.closed_bound {L cs N} {e : Int} {up : Bool} (r : Red L cs N) (hz : Zig L) (hl : 2 ≤ L.length)
    (hh : L.head? = some e) (ht : L.getLast? = some e) (hb : ∀ y ∈ L, bd up e y) :
    ∃ x, x ≠ e ∧ N = [e, x, e] := by
  have hzN := r.zig hz
  rcases r.ends hz hl hh ht hb hb with rfl | ⟨x, rfl⟩
  · exact absurd rfl (Zig_adj_ne [] _ _ [] hzN)
  · exact ⟨x, Ne.symm (Zig_adj_ne [] _ _ _ hzN), rfl⟩

/-- a sequence that runs from one bound `e` of it to the other `f` leaves the residue `[e, f]` -/
theorem Red.bound_bound {L cs N} {e f : Int} {up : Bool} (r : Red L cs N) (hz : Zig L) (hl : 2 ≤ L.length)
    (hh : L.head? = some e) (ht : L.getLast? = some f) (he : ∀ y ∈ L, bd (!up) e y)
    (hf : ∀ y ∈ L, bd up f y) : N = [e, f] := by
  rcases r.ends hz hl hh ht he hf with h | ⟨x, rfl⟩
  · exact h
  · -- three points `e, x, f` alternate, so `x` is outside the bounds
    have alt := (r.zig hz).alt3
    have hx := r.steps.mem x (List.mem_cons_of_mem _ List.mem_cons_self)
    have := bd_between (he x hx) (hf x hx)
    unfold Alt3 at alt; omega

theorem normal_three (a b c : Int) : Normal [a, b, c] := normal_short (Nat.le_refl 3)

/-- extractions left of a shared point `e`, then right of it -/
theorem Steps.around {X X' Y Y' : List Int} {e : Int} {cs ds : List Cyc}
    (s : Steps (X ++ [e]) cs (X' ++ [e])) (t : Steps (e :: Y) ds (e :: Y')) :
    Steps (X ++ e :: Y) (cs ++ ds) (X' ++ e :: Y') := by
  have s1 := s.append Y
  simp only [List.append_assoc, List.singleton_append] at s1
  exact s1.trans (t.prepend X')

/-- a sequence `m … M … m` between its bounds `m ≤ · ≤ M`, and the same period started at `M`: both
alternate, and both have the same canonical histogram.  Extract inside `m … M` and inside `M … m`
separately; what remains is `[m, M, m]` resp. `[M, m, M]` -/
theorem T_rotate (m M : Int) (A' Q'' : List Int)
    (hz : Zig (m :: (A' ++ M :: (Q'' ++ [m]))))
    (hb : ∀ y ∈ m :: (A' ++ M :: (Q'' ++ [m])), m ≤ y ∧ y ≤ M) :
    Zig (M :: (Q'' ++ m :: (A' ++ [M]))) ∧
      ∀ k, T (m :: (A' ++ M :: (Q'' ++ [m]))) k = T (M :: (Q'' ++ m :: (A' ++ [M]))) k := by
  have hzQ := Zig_suffix (m :: A') hz
  have hbQ : ∀ y ∈ M :: (Q'' ++ [m]), m ≤ y ∧ y ≤ M := fun y hy => hb y (List.mem_append_right (m :: A') hy)
  rw [List.append_cons] at hz hb
  have hzP := Zig_prefix (m :: (A' ++ [M])) _ hz
  have hbP : ∀ y ∈ m :: (A' ++ [M]), m ≤ y ∧ y ≤ M := fun y hy => hb y (List.mem_append_left _ hy)
  obtain ⟨csP, NP, rP⟩ := Red.exists (m :: (A' ++ [M]))
  obtain ⟨csQ, NQ, rQ⟩ := Red.exists (M :: (Q'' ++ [m]))
  obtain rfl : NP = [m, M] := rP.bound_bound (up := true) hzP (by simp) rfl (List.getLast?_concat (l := m :: A'))
    (fun y hy => (hbP y hy).1) fun y hy => (hbP y hy).2
  obtain rfl : NQ = [M, m] := rQ.bound_bound (up := false) hzQ (by simp) rfl (List.getLast?_concat (l := M :: Q''))
    (fun y hy => (hbQ y hy).2) fun y hy => (hbQ y hy).1
  have s1 : Steps (m :: (A' ++ M :: (Q'' ++ [m]))) (csP ++ csQ) [m, M, m] :=
    Steps.around (X := m :: A') (X' := [m]) rP.steps rQ.steps
  have s2 : Steps (M :: (Q'' ++ m :: (A' ++ [M]))) (csQ ++ csP) [M, m, M] :=
    Steps.around (X := M :: Q'') (X' := [M]) rQ.steps rP.steps
  refine ⟨?_, fun k => ?_⟩
  · simpa using Zig_glue_ext false (M :: Q'') (A' ++ [M]) m hzQ hzP fun v hv =>
      (List.mem_append.mp hv).elim (fun h => (hbQ v (List.mem_append_left _ h)).1)
        fun h => (hbP v (List.mem_cons_of_mem _ h)).1
  · rw [T_steps s1, T_steps s2, T_normal (normal_three m M m), T_normal (normal_three M m M), unitsAt_append,
      unitsAt_append, unitsAt_halves3, unitsAt_halves3, rng_comm M m]
    omega

theorem closedAtExtreme_iff (h : List Int) : C04.closedAtExtreme h = true ↔
    ∃ x, h.head? = some x ∧ h.getLast? = some x ∧ (x = listMax h ∨ x = listMin h) := by
  cases h with
  | nil => simp [C04.closedAtExtreme]
  | cons x t => simp [C04.closedAtExtreme]

/-- on a non-constant history closed at a global extreme `e`, every maximal extraction sequence leaves
`[e, y, e]` with `y` the opposite extreme: extractions keep the first and last point and never remove
the last copy of an extreme value -/
theorem closed_residue (h : List Int) (hcl : C04.closedAtExtreme h = true) (hc : isConstant h = false)
    {cs N} (r : Red (pv true h) cs N) : ∃ e y, N = [e, y, e] ∧ h.head? = some e ∧
      ((e = listMin h ∧ y = listMax h) ∨ (e = listMax h ∧ y = listMin h)) := by
  obtain ⟨x, hh, hl, hx⟩ := (closedAtExtreme_iff h).mp hcl
  have hlt := nonconst_min_lt_max h hc
  have hne := pv_ne_nil hc
  obtain ⟨eM, em⟩ := pv_true_extremes h
  have hsub := (pv_sublist true h).subset
  have hub : ∀ y ∈ pv true h, bd true (listMax h) y := fun y hy => le_listMax (hsub hy)
  have hlb : ∀ y ∈ pv true h, bd false (listMin h) y := fun y hy => listMin_le (hsub hy)
  have st := r.steps
  have hMN := st.keeps_bound hub (by rw [← eM]; exact listMax_mem _ hne)
  have hmN := st.keeps_bound hlb (by rw [← em]; exact listMin_mem _ hne)
  obtain ⟨up, hb⟩ : ∃ up, ∀ y ∈ pv true h, bd up x y :=
    hx.elim (fun e => ⟨true, e ▸ hub⟩) fun e => ⟨false, e ▸ hlb⟩
  obtain ⟨y, hy, rfl⟩ := r.closed_bound (pv_zig _ hc) (pv_length_ge _ hc) ((pv_head? h).trans hh)
    ((pv_getLast? h).trans hl) hb
  simp only [List.mem_cons, List.not_mem_nil, or_false] at hMN hmN
  -- the other extreme is also left in `[x, y, x]`, and is not `x`
  have ne := Int.ne_of_lt hlt
  rcases hx with rfl | rfl
  · exact ⟨_, y, rfl, hh, Or.inr ⟨rfl, ((hmN.resolve_left ne).resolve_right ne).symm⟩⟩
  · exact ⟨_, y, rfl, hh, Or.inl ⟨rfl, ((hMN.resolve_left ne.symm).resolve_right ne.symm).symm⟩⟩

end FF
