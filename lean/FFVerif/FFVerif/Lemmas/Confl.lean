/- The four-point extraction as a rewriting system on alternating sequences (`Step`; `Steps` for a
sequence of extractions, `Red` for a maximal one), what an extraction preserves, and confluence: every
maximal sequence of extractions ends in the same residue and counts the same ranges.
Core Lean only. -/
import FFVerif.Lemmas.Census
import FFVerif.Lemmas.Table
namespace FF

def Alt4 (a b c d : Int) : Prop := (a < b ∧ b > c ∧ c < d) ∨ (a > b ∧ b < c ∧ c > d)

/-- one four-point extraction anywhere in the sequence: the inner pair `(b, c)` of `a, b, c, d` is
removed when its range is not larger than either neighbouring range -/
inductive Step : List Int → Cyc → List Int → Prop
  | here (a b c d : Int) (S : List Int) : Alt4 a b c d → rng b c ≤ rng a b → rng b c ≤ rng c d →
      Step (a :: b :: c :: d :: S) ⟨b, c, false⟩ (a :: d :: S)
  | there (x : Int) {L : List Int} {c : Cyc} {L' : List Int} : Step L c L' → Step (x :: L) c (x :: L')

def Normal (L : List Int) : Prop := ∀ c L', ¬ Step L c L'

/-- a maximal extraction sequence: `L` reduces to the residue `N`, extracting `cs` in this order -/
inductive Red : List Int → List Cyc → List Int → Prop
  | done {L : List Int} : Normal L → Red L [] L
  | step {L : List Int} {c : Cyc} {L' : List Int} {cs : List Cyc} {N : List Int} :
      Step L c L' → Red L' cs N → Red L (c :: cs) N

theorem Step.length {L c L'} (s : Step L c L') : L'.length + 2 = L.length := by
  induction s with
  | here a b c d S _ _ _ => simp
  | there x s ih => simp only [List.length_cons]; omega

theorem Step.head? {L c L'} (s : Step L c L') : L'.head? = L.head? := by
  cases s <;> rfl

/-- an extraction takes the inner pair out of a quadruple somewhere in the sequence (the converse is
`(Step.here ..).prepend P`) -/
theorem Step.shape {L cy L'} (s : Step L cy L') : ∃ P a b c d S, L = P ++ a :: b :: c :: d :: S ∧
    L' = P ++ a :: d :: S ∧ cy = ⟨b, c, false⟩ ∧ Alt4 a b c d ∧ rng b c ≤ rng a b ∧ rng b c ≤ rng c d := by
  induction s with
  | here a b c d S h1 h2 h3 => exact ⟨[], a, b, c, d, S, rfl, rfl, rfl, h1, h2, h3⟩
  | there x _ ih =>
    obtain ⟨P, a, b, c, d, S, rfl, rfl, h⟩ := ih
    exact ⟨x :: P, a, b, c, d, S, rfl, rfl, h⟩

theorem Step.whole {L c L'} (s : Step L c L') : c.half = false := by
  induction s with
  | here a b c d S _ _ _ => rfl
  | there x s ih => exact ih

theorem Step.zig {L c L'} (s : Step L c L') (hz : Zig L) : Zig L' := by
  obtain ⟨P, a, b, c, d, S, rfl, rfl, _, _, _, h⟩ := s.shape
  simpa using Zig_remove_after (P ++ [a]) b c d S (by simpa using hz) h

theorem Step.mem {L c L'} (s : Step L c L') : ∀ y ∈ L', y ∈ L := by
  obtain ⟨P, a, b, c, d, S, rfl, rfl, _⟩ := s.shape
  exact ((((List.Sublist.refl (d :: S)).cons c).cons b).cons_cons a |>.append_left P).subset

theorem Step.getLast {L c L'} (s : Step L c L') : L'.getLast? = L.getLast? := by
  obtain ⟨P, a, b, c, d, S, rfl, rfl, _⟩ := s.shape
  simp only [List.getLast?_append, List.getLast?_cons_cons]

theorem Step.length_ge {L c L'} (s : Step L c L') : 2 ≤ L'.length := by
  induction s with
  | here a b c d S _ _ _ => simp
  | there x s ih => simp only [List.length_cons]; omega

theorem Step.append {L c L'} (s : Step L c L') (T : List Int) : Step (L ++ T) c (L' ++ T) := by
  induction s with
  | here a b c d S h1 h2 h3 => exact Step.here a b c d (S ++ T) h1 h2 h3
  | there x s ih => exact Step.there x ih

theorem Step.prepend {L c L'} (s : Step L c L') (P : List Int) : Step (P ++ L) c (P ++ L') := by
  induction P with
  | nil => exact s
  | cons x P ih => exact Step.there x ih

/-- the inner pair `(b, c)` lies within the hull of `a` and `d`: what `Step.here` asks of a
quadruple, free of absolute values -/
def Nest (a b c d : Int) : Prop := (a ≤ c ∧ c < b ∧ b ≤ d) ∨ (d ≤ b ∧ b < c ∧ c ≤ a)

theorem Nest.of {a b c d : Int} (hA : Alt4 a b c d) (h1 : rng b c ≤ rng a b) (h2 : rng b c ≤ rng c d) :
    Nest a b c d := by
  unfold rng at h1 h2
  rcases hA with ⟨g1, g2, g3⟩ | ⟨g1, g2, g3⟩
  · left; omega
  · right; omega

theorem Nest.step {a b c d : Int} (h : Nest a b c d) (S : List Int) :
    Step (a :: b :: c :: d :: S) ⟨b, c, false⟩ (a :: d :: S) := by
  refine Step.here a b c d S ?_ ?_ ?_
  · rcases h with h | h
    · left; omega
    · right; omega
  · unfold rng; rcases h with h | h <;> omega
  · unfold rng; rcases h with h | h <;> omega

theorem Nest.reverse {a b c d : Int} (h : Nest a b c d) : Nest d c b a := by
  rcases h with h | h
  · right; omega
  · left; omega

theorem Nest.tie {a b c d e : Int} (n : Nest a b c d) (n2 : Nest b c d e) : b = d := by
  unfold Nest at n n2; omega

theorem Nest.apart {a b c d e f : Int} (n : Nest a b c d) (n2 : Nest c d e f) :
    Nest a d e f ∧ Nest a b c f := by
  rcases n with n | n <;> rcases n2 with n2 | n2
  · exact ⟨Or.inl (by omega), Or.inl (by omega)⟩
  · omega
  · omega
  · exact ⟨Or.inr (by omega), Or.inr (by omega)⟩

theorem Zig.alt4 {a b c d : Int} {S : List Int} (h : Zig (a :: b :: c :: d :: S)) : Alt4 a b c d :=
  h.imp (fun g => ⟨g.1, g.2.1, g.2.2.1⟩) (fun g => ⟨g.1, g.2.1, g.2.2.1⟩)

def Alt3 (a b c : Int) : Prop := (a < b ∧ c < b) ∨ (b < a ∧ b < c)

theorem Zig.alt3 {a b c : Int} {S : List Int} (h : Zig (a :: b :: c :: S)) : Alt3 a b c :=
  h.imp (fun g => ⟨g.1, g.2.1⟩) (fun g => ⟨g.1, g.2.1⟩)

theorem Alt3.reverse {a b c : Int} (h : Alt3 a b c) : Alt3 c b a :=
  h.imp (fun g => ⟨g.2, g.1⟩) (fun g => ⟨g.2, g.1⟩)

/-- `z, a, b` alternate and `z` bounds `a` and `b` from one side: `b` lies between `z` and `a` -/
theorem Alt3.rng_le {z a b : Int} {up : Bool} (h : Alt3 z a b) (ha : bd up z a) (hb : bd up z b) :
    rng a b ≤ rng z a := by
  unfold Alt3 at h; unfold rng
  cases up
  · have : z ≤ a := ha
    have : z ≤ b := hb
    omega
  · have : a ≤ z := ha
    have : b ≤ z := hb
    omega

theorem RfStep.step {L c L'} (s : RfStep L c L') (hz : Zig L) (hw : c.half = false) : Step L c L' := by
  cases s with
  | whole P r a b c Q h1 h2 =>
    exact (Step.here r a b c Q (Zig_suffix P hz).alt4 (Nat.le_of_lt h2) h1).prepend P
  | half a b c Q _ => cases hw

/-- an extraction removes no point that is above, or below, all others: the removed pair lies
within the hull of its neighbours -/
theorem Step.keeps_bound {L c L'} (s : Step L c L') {up : Bool} {e : Int}
    (hb : ∀ y ∈ L, bd up e y) (he : e ∈ L) : e ∈ L' := by
  induction s with
  | here a b c d S h1 h2 h3 =>
    have n := Nest.of h1 h2 h3
    have hb := bd_all hb
    simp only [List.forall_mem_cons] at hb
    unfold Nest at n
    have key : (e = b → e = d) ∧ (e = c → e = a) := by omega
    simp only [List.mem_cons] at he ⊢
    rcases he with e1 | e1 | e1 | e1 | e1
    · exact Or.inl e1
    · exact Or.inr (Or.inl (key.1 e1))
    · exact Or.inl (key.2 e1)
    · exact Or.inr (Or.inl e1)
    · exact Or.inr (Or.inr e1)
  | there x s ih =>
    rcases List.mem_cons.mp he with e1 | e1
    · rw [e1]; simp
    · exact List.mem_cons_of_mem _ (ih (fun y hy => hb y (List.mem_cons_of_mem _ hy)) e1)

theorem diamond_here (a b c d : Int) (S : List Int) (h1 : Alt4 a b c d) (h2 : rng b c ≤ rng a b)
    (h3 : rng b c ≤ rng c d) {c2 : Cyc} {L2 : List Int} (s2 : Step (a :: b :: c :: d :: S) c2 L2) :
    (a :: d :: S = L2 ∧ rng b c = c2.range) ∨
    ∃ L3, Step (a :: d :: S) c2 L3 ∧ Step L2 ⟨b, c, false⟩ L3 := by
  have n := Nest.of h1 h2 h3
  cases s2 with
  | here _ _ _ _ _ _ _ _ => exact Or.inl ⟨rfl, rfl⟩
  | there _ s2 =>
    cases s2 with
    | here _ _ _ e S' g1 g2 g3 =>
      -- overlap by three points: the two ranges are equal and `b = d`
      obtain rfl := n.tie (Nest.of g1 g2 g3)
      exact Or.inl ⟨rfl, rng_comm b c⟩
    | there _ s2 =>
      cases s2 with
      | here _ _ e f S' g1 g2 g3 =>
        obtain ⟨m1, m2⟩ := n.apart (Nest.of g1 g2 g3)
        exact Or.inr ⟨a :: f :: S', m1.step S', m2.step S'⟩
      | there _ s2 =>
        obtain ⟨S', rfl⟩ := List.head?_eq_some_iff.mp s2.head?
        exact Or.inr ⟨a :: d :: S', Step.there a s2, n.step S'⟩

theorem diamond {L c1 L1 c2 L2} (s1 : Step L c1 L1) (s2 : Step L c2 L2) :
    (L1 = L2 ∧ c1.range = c2.range) ∨ ∃ L3, Step L1 c2 L3 ∧ Step L2 c1 L3 := by
  induction s1 generalizing c2 L2 with
  | here a b c d S h1 h2 h3 => exact diamond_here a b c d S h1 h2 h3 s2
  | there x s1 ih =>
    cases s2 with
    | here _ b c d S h1 h2 h3 =>
      rcases diamond_here x b c d S h1 h2 h3 (Step.there x s1) with ⟨e, r⟩ | ⟨L3, t1, t2⟩
      · exact Or.inl ⟨e.symm, r.symm⟩
      · exact Or.inr ⟨L3, t2, t1⟩
    | there _ s2 =>
      rcases ih s2 with ⟨e, r⟩ | ⟨L3, t1, t2⟩
      · exact Or.inl ⟨by rw [e], r⟩
      · exact Or.inr ⟨x :: L3, Step.there x t1, Step.there x t2⟩

theorem Red.exists (L : List Int) : ∃ cs N, Red L cs N := by
  induction hl : L.length using Nat.strongRecOn generalizing L with
  | ind n ih =>
    by_cases hs : ∃ c L', Step L c L'
    · obtain ⟨c, L', s⟩ := hs
      have := s.length
      obtain ⟨cs, N, r⟩ := ih _ (by omega) L' rfl
      exact ⟨c :: cs, N, Red.step s r⟩
    · exact ⟨[], L, Red.done (fun c L' s => hs ⟨c, L', s⟩)⟩

/-- an extraction can be brought to the front of a maximal sequence from the same start: the residue stays,
the counted ranges are the same -/
theorem Red.strip {L cs N c L'} (r : Red L cs N) (s : Step L c L') :
    ∃ cs', Red L' cs' N ∧ ∀ k, unitsAt cs k = unitsAt [c] k + unitsAt cs' k := by
  induction hl : L.length using Nat.strongRecOn generalizing L cs c L' with
  | ind n ih =>
    cases r with
    | done hn => exact absurd s (hn _ _)
    | @step _ c1 L1 cs1 _ s1 r1 =>
      rcases diamond s1 s with ⟨rfl, hr⟩ | ⟨L3, t1, t2⟩
      · exact ⟨cs1, r1, fun k => by rw [unitsAt_cons' c1, unitsAt_single_whole c1 c s1.whole s.whole hr k]⟩
      · obtain ⟨cs3, r3, e3⟩ := ih _ (by have := s1.length; omega) r1 t1 rfl
        exact ⟨c1 :: cs3, Red.step t2 r3, fun k => by
          rw [unitsAt_cons' c1, e3 k, unitsAt_cons' c1 cs3, Nat.add_left_comm]⟩

theorem Red.confluent {L cs N cs' N'} (r1 : Red L cs N) (r2 : Red L cs' N') :
    N = N' ∧ ∀ k, unitsAt cs k = unitsAt cs' k := by
  induction r2 generalizing cs N with
  | done hn =>
    cases r1 with
    | done _ => exact ⟨rfl, fun _ => rfl⟩
    | step s _ => exact absurd s (hn _ _)
  | step s2 _ ih =>
    obtain ⟨cs1, r1', e⟩ := r1.strip s2
    obtain ⟨eN, eU⟩ := ih r1'
    exact ⟨eN, fun k => by rw [e k, eU k, ← unitsAt_cons']⟩

theorem Red.normal {L cs N} (r : Red L cs N) : Normal N := by
  induction r with
  | done h => exact h
  | step _ _ ih => exact ih

theorem normal_short {L : List Int} (h : L.length ≤ 3) : Normal L := fun _ _ s => by
  have := s.length
  have := s.length_ge
  omega

theorem Normal.tail {x : Int} {L : List Int} (h : Normal (x :: L)) : Normal L :=
  fun _ _ s => h _ _ (Step.there x s)

theorem Normal.prefix {P T : List Int} (h : Normal (P ++ T)) : Normal P :=
  fun _ _ s => h _ _ (s.append T)

theorem Dec_normal {L : List Int} (hd : Dec L) : Normal L := by
  intro c L' s
  induction s with
  | here a b c d S _ _ h3 => exact Nat.not_lt.mpr h3 hd.2.1
  | there x s ih => exact ih (Dec_tail x _ hd)

/-- a sequence of decreasing ranges stays a residue with any point put in front of it -/
theorem Dec_normal_cons {N : List Int} (hd : Dec N) (z : Int) : Normal (z :: N) := by
  intro c L' s
  cases s with
  | here _ a b c S _ _ h3 => exact Nat.not_lt.mpr h3 hd.1
  | there _ s => exact Dec_normal hd _ _ s

/-- a sequence of extractions, not necessarily maximal -/
abbrev Steps := Run Step

theorem Red.steps {L cs N} (r : Red L cs N) : Steps L cs N := by
  induction r with
  | done _ => exact .nil _
  | step s _ ih => exact .cons s ih

theorem Steps.red {L cs M cs2 N} (s : Steps L cs M) (r : Red M cs2 N) : Red L (cs ++ cs2) N := by
  induction s with
  | nil L => exact r
  | cons s _ ih => exact Red.step s (ih r)

theorem Steps.append {L cs N} (s : Steps L cs N) (T : List Int) : Steps (L ++ T) cs (N ++ T) :=
  s.map (· ++ T) (·.append T)

theorem Steps.prepend {L cs N} (s : Steps L cs N) (P : List Int) : Steps (P ++ L) cs (P ++ N) :=
  s.map (P ++ ·) (·.prepend P)

theorem Steps.zig {L cs M} (s : Steps L cs M) (hz : Zig L) : Zig M :=
  s.preserves Step.zig hz

theorem Red.zig {L cs N} (r : Red L cs N) (hz : Zig L) : Zig N :=
  r.steps.zig hz

theorem Steps.mem {L cs M} (s : Steps L cs M) : ∀ y ∈ M, y ∈ L :=
  s.preserves (I := fun X => ∀ y ∈ X, y ∈ L) (fun st h y hy => h y (st.mem y hy)) fun _ h => h

theorem Steps.head {L cs M} (s : Steps L cs M) : M.head? = L.head? :=
  s.preserves (I := fun X => X.head? = L.head?) (fun st h => st.head?.trans h) rfl

theorem Steps.getLast {L cs M} (s : Steps L cs M) : M.getLast? = L.getLast? :=
  s.preserves (I := fun X => X.getLast? = L.getLast?) (fun st h => st.getLast.trans h) rfl

theorem Steps.length_ge {L cs M} (s : Steps L cs M) (h : 2 ≤ L.length) : 2 ≤ M.length :=
  s.preserves (I := fun X => 2 ≤ X.length) (fun st _ => st.length_ge) h

theorem Steps.keeps_bound {L cs N} (s : Steps L cs N) {up : Bool} {e : Int}
    (hb : ∀ y ∈ L, bd up e y) (he : e ∈ L) : e ∈ N :=
  (s.preserves (I := fun X => (∀ y ∈ X, bd up e y) ∧ e ∈ X)
    (fun st h => ⟨fun y hy => h.1 y (st.mem y hy), st.keeps_bound h.1 h.2⟩) ⟨hb, he⟩).2

end FF
