/- The ASTM three-point rainflow count, as a range histogram, is the histogram of the four-point
extractions plus the half cycles of the four-point residue.  Core Lean only (classical choice is used
to name the canonical histogram `T`). -/
import FFVerif.Lemmas.ConflFP
namespace FF

theorem Step.first {b c : Int} {rest : List Int} {cy : Cyc} {M : List Int}
    (s : Step (b :: c :: rest) cy M) : ∃ x t, M = b :: x :: t ∧ rng b c ≤ rng b x := by
  cases s with
  | here _ _ d e S h1 h2 h3 =>
    refine ⟨e, S, rfl, ?_⟩
    have n := Nest.of h1 h2 h3
    unfold Nest at n; unfold rng; omega
  | there _ s =>
    obtain ⟨t', rfl⟩ := List.head?_eq_some_iff.mp s.head?
    exact ⟨c, t', rfl, Nat.le_refl _⟩

theorem Steps.first {b c : Int} {rest : List Int} {cs M} (s : Steps (b :: c :: rest) cs M) :
    ∃ x t, M = b :: x :: t ∧ rng b c ≤ rng b x :=
  s.preserves (I := fun X => ∃ x t, X = b :: x :: t ∧ rng b c ≤ rng b x)
    (fun st ⟨x, t, e, h⟩ => by
      subst e
      obtain ⟨x', t', e', h'⟩ := st.first
      exact ⟨x', t', e', by omega⟩)
    ⟨c, rest, rfl, Nat.le_refl _⟩

theorem Red.cons_of_lt {a b c : Int} {rest : List Int} {cs : List Cyc} {N : List Int}
    (r : Red (b :: c :: rest) cs N) (h : rng a b < rng b c) : Red (a :: b :: c :: rest) cs (a :: N) := by
  obtain ⟨x, t, rfl, hx⟩ := r.steps.first
  have hn : Normal (a :: b :: x :: t) := by
    intro c1 M1 s1
    cases s1 with
    | here _ _ _ y t' h1 h2 h3 => omega
    | there _ s' => exact r.normal _ _ s'
  simpa using (r.steps.prepend [a]).red (Red.done hn)

/-- extracted cycles plus the half cycles of the residue, counted at range `k` -/
noncomputable def T (L : List Int) (k : Nat) : Nat :=
  unitsAt (Classical.choose (Red.exists L)) k +
    unitsAt (halves (Classical.choose (Classical.choose_spec (Red.exists L)))) k

theorem T_eq {L cs N} (r : Red L cs N) (k : Nat) : T L k = unitsAt cs k + unitsAt (halves N) k := by
  have r0 := Classical.choose_spec (Classical.choose_spec (Red.exists L))
  obtain ⟨e, u⟩ := r0.confluent r
  unfold T
  rw [e, u k]

theorem T_steps {L cs M} (s : Steps L cs M) (k : Nat) : T L k = unitsAt cs k + T M k := by
  obtain ⟨ds, N, r⟩ := Red.exists M
  rw [T_eq (s.red r), T_eq r, unitsAt_append, Nat.add_assoc]

theorem T_step {L c L'} (s : Step L c L') (k : Nat) : T L k = unitsAt [c] k + T L' k :=
  T_steps (.cons s (.nil _)) k

theorem T_normal {L} (h : Normal L) (k : Nat) : T L k = unitsAt (halves L) k :=
  (T_eq (.done h) k).trans (Nat.zero_add _)

/-- a whole cycle counts like its two half cycles -/
theorem unitsAt_whole (a b : Int) (k : Nat) :
    unitsAt [⟨a, b, false⟩] k = unitsAt [⟨b, a, true⟩] k + unitsAt [⟨a, b, true⟩] k := by
  simp only [unitsAt_single, Cyc.range, Cyc.units, rng_comm b a]
  by_cases hk : rng a b = k <;> simp [hk]

theorem unitsAt_halves3 (e y : Int) (k : Nat) :
    unitsAt (halves [e, y, e]) k = if rng e y = k then 2 else 0 := by
  rw [rng_comm]
  exact (unitsAt_cons' _ _ k).trans ((unitsAt_whole y e k).symm.trans (unitsAt_single _ k))

/-- dropping the starting point when the first range is contained in the second: one half cycle -/
theorem T_head (a b c : Int) (rest : List Int) (hr : rng a b ≤ rng b c) (k : Nat) : T (a :: b :: c :: rest) k = unitsAt [⟨a, b, true⟩] k + T (b :: c :: rest) k := by
  obtain ⟨cs, N', r⟩ := Red.exists (b :: c :: rest)
  obtain ⟨x, t, rfl, hx⟩ := r.steps.first
  -- the extractions of the tail come first on both sides: it is enough to look at its residue `b :: x :: t`
  have st : Steps (a :: b :: c :: rest) cs (a :: b :: x :: t) := r.steps.prepend [a]
  rw [T_steps st, T_steps r.steps, T_normal r.normal, Nat.add_left_comm]
  refine congrArg (unitsAt cs k + ·) ?_
  obtain ⟨cs2, N2, r2⟩ := Red.exists (a :: b :: x :: t)
  cases r2 with
  | done hA => exact (T_normal hA k).trans (unitsAt_cons' _ _ k)
  | step s _ =>
    cases s with
    | there _ s' => exact absurd s' (r.normal _ _)
    | here _ _ _ y t' h1 h2 h3 =>
      -- `rng a b ≤ rng b c ≤ rng b x ≤ rng a b`: the second point has come back to `a`, and the whole
      -- cycle `b–x` stands for the two half cycles `a–b`, `b–x`
      obtain rfl : x = a := by
        have n := Nest.of h1 h2 h3
        unfold Nest at n; unfold rng at hr hx; omega
      rw [T_step (Step.here x b x y t' h1 h2 h3), T_normal r.normal.tail, unitsAt_whole,
        show halves (b :: x :: y :: t') = ⟨b, x, true⟩ :: halves (x :: y :: t') from rfl, unitsAt_cons' _ (halves _),
        Nat.add_assoc]

/-- each step of the three-point machine takes its cycle out of the canonical histogram: a whole
cycle is a four-point extraction, a half cycle drops the starting point -/
theorem RfRun.T {L cs N} (r : RfRun L cs N) (hz : Zig L) (k : Nat) : T L k = unitsAt cs k + T N k := by
  induction r with
  | nil L => exact (Nat.zero_add _).symm
  | @cons _ _ _ cs _ s _ ih =>
    cases s with
    | whole P r a b c Q h1 h2 =>
      have s' := (RfStep.whole P r a b c Q h1 h2).step hz rfl
      rw [T_step s' k, ih (s'.zig hz), unitsAt_cons' _ cs]
      omega
    | half a b c Q h =>
      rw [T_head a b c Q h k, ih (Zig_tail hz), unitsAt_cons' _ cs]
      omega

theorem astm_T (L : List Int) (hz : Zig L) (k : Nat) : unitsAt (astm L) k = T L k := by
  obtain ⟨cs, N, r, hd, e⟩ := astm_run L
  rw [e, unitsAt_append, r.T hz, T_normal (Dec_normal hd)]

theorem astm_red {L cs N} (hz : Zig L) (r : Red L cs N) (k : Nat) :
    unitsAt (astm L) k = unitsAt cs k + unitsAt (halves N) k := by
  rw [astm_T L hz, T_eq r]

theorem T_reverse (L : List Int) (k : Nat) : T L.reverse k = T L k := by
  obtain ⟨cs, N, r⟩ := Red.exists L
  rw [T_eq r, T_eq r.reverse, unitsAt_map_swap, halves_reverse, unitsAt_reverse, unitsAt_map_swap]

end FF
