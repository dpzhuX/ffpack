/- Root of the library: every module, by layer (DESIGN.md §2, §2.6).  `lake build` checks all of them; the driver
`ffdriver` (Main.lean) imports Model, Gen and Props only. -/
-- executable models (hand-written)
import FFVerif.Model.Arma
import FFVerif.Model.Chol
import FFVerif.Model.Cycle
import FFVerif.Model.Deriv
import FFVerif.Model.Form
import FFVerif.Model.Gram
import FFVerif.Model.Level
import FFVerif.Model.Linalg
import FFVerif.Model.Matrix
import FFVerif.Model.Miner
import FFVerif.Model.Nataf
import FFVerif.Model.NormalFloat
import FFVerif.Model.Proto
import FFVerif.Model.Sampler
import FFVerif.Model.Scalar
import FFVerif.Model.Seed
import FFVerif.Model.Signal
import FFVerif.Model.Sorm
import FFVerif.Model.SormPipe
import FFVerif.Model.Spectral
import FFVerif.Model.Subset
-- regenerated from the Python source on every run
import FFVerif.Gen.DiffTables
import FFVerif.Gen.MeanStress
import FFVerif.Gen.VecFormulas
import FFVerif.Gen.Wave
import FFVerif.Gen.Wind
-- executable property predicates
import FFVerif.Props.C01
import FFVerif.Props.C02
import FFVerif.Props.C03
import FFVerif.Props.C04
import FFVerif.Props.C05
import FFVerif.Props.C06
import FFVerif.Props.C07
import FFVerif.Props.C09
import FFVerif.Props.C16
import FFVerif.Props.C19
import FFVerif.Props.C20
import FFVerif.Props.Spec
-- shared notions and their lemmas
import FFVerif.Lemmas.Census
import FFVerif.Lemmas.ClosedNormal
import FFVerif.Lemmas.Collapse
import FFVerif.Lemmas.Confl
import FFVerif.Lemmas.ConflFP
import FFVerif.Lemmas.ConflRF
import FFVerif.Lemmas.Cut
import FFVerif.Lemmas.Filter
import FFVerif.Lemmas.FourPointSim
import FFVerif.Lemmas.JoBottom
import FFVerif.Lemmas.Level
import FFVerif.Lemmas.LinalgReal
import FFVerif.Lemmas.Matrix
import FFVerif.Lemmas.PeakSpec
import FFVerif.Lemmas.PeakValley
import FFVerif.Lemmas.Rainflow
import FFVerif.Lemmas.RainflowClosed
import FFVerif.Lemmas.RainflowMax
import FFVerif.Lemmas.RealScalar
import FFVerif.Lemmas.RealScalarAttr
import FFVerif.Lemmas.Refine
import FFVerif.Lemmas.Repeat
import FFVerif.Lemmas.Reverse
import FFVerif.Lemmas.RfRpClosed
import FFVerif.Lemmas.RyBottom
import FFVerif.Lemmas.RyNormal
import FFVerif.Lemmas.RyStep
import FFVerif.Lemmas.Scan
import FFVerif.Lemmas.Signal
import FFVerif.Lemmas.Similar
import FFVerif.Lemmas.Table
import FFVerif.Lemmas.Zig
-- property theorems
import FFVerif.Proofs.C01
import FFVerif.Proofs.C02
import FFVerif.Proofs.C03
import FFVerif.Proofs.C03Reverse
import FFVerif.Proofs.C04
import FFVerif.Proofs.C04Full
import FFVerif.Proofs.C05
import FFVerif.Proofs.C06
import FFVerif.Proofs.C06Rainflow
import FFVerif.Proofs.C07
import FFVerif.Proofs.C08
import FFVerif.Proofs.C09
import FFVerif.Proofs.C10
import FFVerif.Proofs.C10Conv
import FFVerif.Proofs.C10Loop
import FFVerif.Proofs.C10Newton
import FFVerif.Proofs.C10NumGrad
import FFVerif.Proofs.C10ScaleFosm
import FFVerif.Proofs.C11
import FFVerif.Proofs.C11Chol
import FFVerif.Proofs.C11CholPD
import FFVerif.Proofs.C11Law
import FFVerif.Proofs.C11Model
import FFVerif.Proofs.C12
import FFVerif.Proofs.C12Basis
import FFVerif.Proofs.C12Chain
import FFVerif.Proofs.C12Hess
import FFVerif.Proofs.C12Pipe
import FFVerif.Proofs.C12Rows
import FFVerif.Proofs.C12Scale
import FFVerif.Proofs.C13
import FFVerif.Proofs.C14
import FFVerif.Proofs.C14Balance
import FFVerif.Proofs.C14Continuous
import FFVerif.Proofs.C14Uniform
import FFVerif.Proofs.C15
import FFVerif.Proofs.C16
import FFVerif.Proofs.C17
import FFVerif.Proofs.C17Full
import FFVerif.Proofs.C17Welch
import FFVerif.Proofs.C18
import FFVerif.Proofs.C18Areas
import FFVerif.Proofs.C19
import FFVerif.Proofs.C20
import FFVerif.Proofs.C20Align
import FFVerif.Proofs.C20Deriv
import FFVerif.Proofs.C20Grad
import FFVerif.Proofs.C20Gram
import FFVerif.Proofs.C20GramModel
import FFVerif.Proofs.C20Hess
import FFVerif.Proofs.VecGen
